/-
  Executable model of curtsies/escseqparse.py and of `FmtStr.from_str` / `fmtstr`
  (curtsies/formatstring.py) - no imports outside this project.

  REGEXES.  The library's regexes are modelled as the scanners they denote, over `Text = List Char`.

  m1 (peel_off_esc_code, flags VERBOSE|DOTALL)
        (?P<front>.*?) (?P<seq> (?P<csi> ESC\[ | \x9b ) (?P<private>)
                                 (?P<numbers>(?:[0-9]+;)*(?:[0-9]+)?) (?P<intermed>[\x20-\x2f]*) (?P<command>[\x40-\x7e]) )
        (?P<rest>.*)
  m2 (flag DOTALL)
        (?P<front>.*?)(?P<seq>(?P<csi>ESC)(?P<command>[\x40-\x5f]))(?P<rest>.*)

  * With DOTALL `.` matches every character, so `rest = .*` always matches, and the lazy `front = .*?` makes
    `re.match` return the match with the SHORTEST front, i.e. the EARLIEST position at which `seq` matches:
    `findCsi` / `findEsc2` try position 0, 1, 2, ... in turn.
  * Whether `seq` of m1 matches at a position does not depend on backtracking: a digit (0x30-0x39), ';' (0x3b),
    an intermediate (0x20-0x2f) and a final byte (0x40-0x7e) are pairwise disjoint classes. A shorter choice
    for `(?:[0-9]+;)*(?:[0-9]+)?` leaves a digit or ';' as the next character, which is neither an intermediate nor a
    final byte; a shorter choice for `[\x20-\x2f]*` leaves an intermediate where the final byte must be. So
    "greedy numbers, greedy intermediates, then one final byte" (`csiBody`) succeeds iff the regex does, with
    the same groups. E.g. `ESC[12` + end of string: m1 does not match at that position, m2 matches `ESC[`.
  * remove_ansi: `(\x9B|\x1B\[)[0-?]*[ -\/]*[@-~]` with re.sub: left to right, non-overlapping; the classes
    0x30-0x3f, 0x20-0x2f, 0x40-0x7e are disjoint, same argument (`ansiLen`).

  Digits: the numbers group is `(?:[0-9]+;)*(?:[0-9]+)?` - ASCII digits only (`isDigit`), so `int()` is only
  ever applied to non-empty strings of ASCII digits (`intOf`). CPython's `int()` raises ValueError for a string
  of more than `sys.get_int_max_str_digits()` digits (4300 by default, 0 = no limit; leading zeros count):
  `md` is that limit - a PARAMETER of the model, instantiated by the driver with the value dumped from the live
  interpreter (Generated/EscParse.lean). The `int(x)` sits in `peel_off_esc_code`, OUTSIDE the try of `parse`, so
  the ValueError leaves `parse` and `from_str` falls back to `remove_ansi`.
  `peelMatch` is the regex part of `peel_off_esc_code` (which match is chosen; `numbers` still the matched
  str), `peel` adds the post-processing of `numbers`, which may raise.

  Dicts: a token is the `groupdict()` with front/rest deleted: `numbers = none` when the key is absent (m2).
  The dicts that `token_type` returns are the constructors of `Upd`. `cur_fmt` of `from_str` is an `Atts`
  record in which a field is `none` when the key is absent OR maps to None (the code filters `v is not None`
  before `parse_args`, so the two are never distinguished); colour names are `Fin 8` (`parse_args` turns the
  name back into the number: the two tables are inverse, checked by `decide` in Properties/C05.lean).
-/
import Curtsies.Model.FmtStr
namespace Curtsies

/-- `[0-9]` -/
def isDigit (c : Char) : Bool := 0x30 ≤ c.toNat && c.toNat ≤ 0x39
/-- `[\x20-\x2f]` -/
def isIntermed (c : Char) : Bool := 0x20 ≤ c.toNat && c.toNat ≤ 0x2f
/-- `[\x40-\x7e]` -/
def isFinal (c : Char) : Bool := 0x40 ≤ c.toNat && c.toNat ≤ 0x7e
/-- `[\x40-\x5f]` -/
def isFe (c : Char) : Bool := 0x40 ≤ c.toNat && c.toNat ≤ 0x5f
/-- `[0-?]` = 0x30-0x3f -/
def isParam (c : Char) : Bool := 0x30 ≤ c.toNat && c.toNat ≤ 0x3f

/-- The value of `d["numbers"]` after the post-processing in `peel_off_esc_code`: still the matched `str`,
    or the list of ints. -/
inductive Numbers
  | raw (t : Text)
  | ints (l : List Nat)
  deriving DecidableEq, Repr

/-- The token dict (`private` is always `''` and is left out; `numbers = none`: key absent, i.e. an m2 match,
    whose dict also has no `intermed` key - modelled as `[]`). -/
structure Token where
  csi : Text
  numbers : Option Numbers
  intermed : Text
  command : Char
  seq : Text
  deriving DecidableEq, Repr

/-! ### the numbers group -/

/-- Length of the greedy match of `(?:[0-9]+;)*(?:[0-9]+)?` at the head of the text. `inDigits` = the previous
    character was a digit (so a ';' may close the group). -/
def numsLen : Bool → Text → Nat
  | _, [] => 0
  | inDigits, c :: r =>
    if isDigit c then 1 + numsLen true r
    else if inDigits && c == ';' then 1 + numsLen false r
    else 0

/-- `str.split(";")`; `cur` is the piece being collected. -/
def splitSemi (cur : Text) : Text → List Text
  | [] => [cur]
  | c :: r => if c = ';' then cur :: splitSemi [] r else splitSemi (cur ++ [c]) r

/-- Value of a string of ASCII digits (digit value = code point - 48). -/
def intVal (t : Text) : Nat := t.foldl (fun acc c => acc * 10 + (c.toNat - 48)) 0

/-- `int(x)` for a non-empty string of ASCII digits (the only strings it is applied to: pieces of the
    `numbers` group): ValueError when it has more than `md` digits (`md = 0`: no limit). -/
def intOf (md : Nat) (t : Text) : Except PyErr Nat :=
  if md ≠ 0 ∧ t.length > md then .error .valueError else .ok (intVal t)

/-- `[int(x) for x in pieces]`: left to right, the first failure raises. -/
def intsOf (md : Nat) : List Text → Except PyErr (List Nat)
  | [] => .ok []
  | p :: ps =>
    match intOf md p with
    | .error e => .error e
    | .ok v =>
      match intsOf md ps with
      | .error e => .error e
      | .ok vs => .ok (v :: vs)

/-- `if all(d["numbers"].split(";")): d["numbers"] = [int(x) for x in d["numbers"].split(";")]` -/
def postNumbers (md : Nat) (numbers : Text) : Except PyErr Numbers :=
  let pieces := splitSemi [] numbers
  if pieces.all (fun p => !p.isEmpty) then
    match intsOf md pieces with
    | .error e => .error e
    | .ok l => .ok (.ints l)
  else .ok (.raw numbers)

/-! ### m1 / m2 anchored at one position -/

/-- m1 after the `csi` group: numbers, intermediates, command; returns the token (the groupdict as
    matched: `numbers` still a str) and `rest`. -/
def csiBody (csi r : Text) : Option (Token × Text) :=
  let n := numsLen false r
  let numbers := r.take n
  let r1 := r.drop n
  let intermed := r1.takeWhile isIntermed
  match r1.dropWhile isIntermed with
  | cmd :: rest =>
    if isFinal cmd then
      some (⟨csi, some (.raw numbers), intermed, cmd, csi ++ numbers ++ intermed ++ [cmd]⟩, rest)
    else none
  | [] => none

/-- Does `seq` of m1 match at the head of `s`? -/
def matchCsiAt : Text → Option (Token × Text)
  | [] => none
  | c :: r =>
    if c = ESC then
      match r with
      | c2 :: r' => if c2 = '[' then csiBody [ESC, '['] r' else none
      | [] => none
    else if c = CSI8 then csiBody [CSI8] r
    else none

/-- Does `seq` of m2 match at the head of `s`? -/
def matchEsc2At : Text → Option (Token × Text)
  | c :: c2 :: rest =>
    if c = ESC ∧ isFe c2 then some (⟨[ESC], none, [], c2, [ESC, c2]⟩, rest) else none
  | _ => none

/-- `re.match(m1, s)`: shortest front first. -/
def findCsi : Text → Option (Text × Token × Text)
  | [] => none
  | c :: r =>
    match matchCsiAt (c :: r) with
    | some (t, rest) => some ([], t, rest)
    | none =>
      match findCsi r with
      | some (f, t, rest) => some (c :: f, t, rest)
      | none => none

/-- `re.match(m2, s)` -/
def findEsc2 : Text → Option (Text × Token × Text)
  | [] => none
  | c :: r =>
    match matchEsc2At (c :: r) with
    | some (t, rest) => some ([], t, rest)
    | none =>
      match findEsc2 r with
      | some (f, t, rest) => some (c :: f, t, rest)
      | none => none

/-- The match `peel_off_esc_code` settles on: (front, groupdict without front/rest, rest), or
    `(s, None, "")`. -/
def peelMatch (s : Text) : Text × Option Token × Text :=
  match findCsi s, findEsc2 s with
  | some (f1, t1, r1), some (f2, t2, r2) =>
    if f1.length ≤ f2.length then (f1, some t1, r1) else (f2, some t2, r2)
  | some (f1, t1, r1), none => (f1, some t1, r1)
  | none, some (f2, t2, r2) => (f2, some t2, r2)
  | none, none => (s, none, [])

/-- The post-processing of `d["numbers"]` (only m1 matches have the key). -/
def postToken (md : Nat) : Option Token → Except PyErr (Option Token)
  | none => .ok none
  | some t =>
    match t.numbers with
    | some (.raw numbers) =>
      match postNumbers md numbers with
      | .error e => .error e
      | .ok v => .ok (some { t with numbers := some v })
    | _ => .ok (some t)

/-- `peel_off_esc_code(s)` = (front, token, rest), or the ValueError of `int()`. -/
def peel (md : Nat) (s : Text) : Except PyErr (Text × Option Token × Text) :=
  match postToken md (peelMatch s).2.1 with
  | .error e => .error e
  | .ok tok => .ok ((peelMatch s).1, tok, (peelMatch s).2.2)

/-! ### token_type -/

inductive Style | bold | dark | italic | underline | blink | invert
  deriving DecidableEq, Repr

/-- `NUMBER_TO_STYLE` -/
def numberToStyle (n : Nat) : Option Style :=
  if n = 1 then some .bold else if n = 2 then some .dark else if n = 3 then some .italic
  else if n = 4 then some .underline else if n = 5 then some .blink else if n = 7 then some .invert
  else none

/-- One dict of the list `token_type` returns. -/
inductive Upd
  | setFg (i : Fin 8)        -- {"fg": FG_NUMBER_TO_COLOR[value]}
  | setBg (i : Fin 8)        -- {"bg": BG_NUMBER_TO_COLOR[value]}
  | setStyle (k : Style)     -- {NUMBER_TO_STYLE[value]: True}
  | resetAll                 -- dict({k: None for k in STYLES}, fg=None, bg=None)
  | resetFg                  -- {"fg": None}
  | resetBg                  -- {"bg": None}
  | nothing                  -- {}   (command 'H')
  deriving DecidableEq, Repr

/-- What `for value in values` iterates over: ints, or the characters of a str. -/
inductive PyVal
  | int (n : Nat)
  | chr (c : Char)
  deriving DecidableEq, Repr

/-- `values = info["numbers"] if len(info["numbers"]) else [0]` -/
def valuesOf : Numbers → List PyVal
  | .raw t => if t.length = 0 then [.int 0] else t.map .chr
  | .ints l => if l.length = 0 then [.int 0] else l.map .int

/-- The six `if`s of the loop body (a one-character str is in none of the tables and equals no int). -/
def updsOfValue : PyVal → List Upd
  | .chr _ => []
  | .int v =>
    (if h : 30 ≤ v ∧ v ≤ 37 then [Upd.setFg ⟨v - 30, by omega⟩] else []) ++
    (if h : 40 ≤ v ∧ v ≤ 47 then [Upd.setBg ⟨v - 40, by omega⟩] else []) ++
    (match numberToStyle v with | some k => [Upd.setStyle k] | none => []) ++
    (if v = RESET_ALL then [Upd.resetAll] else []) ++
    (if v = RESET_FG then [Upd.resetFg] else []) ++
    (if v = RESET_BG then [Upd.resetBg] else [])

/-- `token_type(info)`: `some l` = the list, `none` = None. -/
def tokenType (t : Token) : Except PyErr (Option (List Upd)) :=
  if t.command = 'm' then
    match t.numbers with
    | none => .error .keyError                 -- info["numbers"] on a dict without that key
    | some nums =>
      let tokens := (valuesOf nums).flatMap updsOfValue
      if tokens.isEmpty then .error .valueError else .ok (some tokens)
  else if t.command = 'H' then .ok (some [.nothing])
  else .ok none

/-! ### decomposition: a match of `peelMatch` splits `s` into `front ++ seq ++ rest` with `seq` a complete sequence;
    `peelMatch_rest_lt` and `peel_ok` are the termination of `parseLoop` -/

theorem isDigit_isParam {c : Char} (h : isDigit c = true) : isParam c = true := by
  simp only [isDigit, isParam, Bool.and_eq_true, decide_eq_true_eq] at *
  omega

theorem numsLen_chars (b : Bool) (r : Text) : ∀ x ∈ r.take (numsLen b r), isParam x = true := by
  induction r generalizing b with
  | nil => simp
  | cons c r ih =>
    unfold numsLen
    split
    · rename_i hd
      rw [Nat.add_comm, List.take_succ_cons, List.forall_mem_cons]
      exact ⟨isDigit_isParam hd, ih _⟩
    · split
      · rename_i hs
        rw [Nat.add_comm, List.take_succ_cons, List.forall_mem_cons]
        simp only [Bool.and_eq_true, beq_iff_eq] at hs
        exact ⟨by rw [hs.2]; decide, ih _⟩
      · simp

/-- The shapes of the character sequences the parser (token `seq`) and `remove_ansi` delete. -/
inductive IsSeq : Text → Prop
  | csi7 (ps is : Text) (c : Char) : (∀ x ∈ ps, isParam x = true) → (∀ x ∈ is, isIntermed x = true) →
      isFinal c = true → IsSeq ([ESC, '['] ++ ps ++ is ++ [c])
  | csi8 (ps is : Text) (c : Char) : (∀ x ∈ ps, isParam x = true) → (∀ x ∈ is, isIntermed x = true) →
      isFinal c = true → IsSeq ([CSI8] ++ ps ++ is ++ [c])
  | esc2 (c : Char) : isFe c = true → IsSeq [ESC, c]

theorem IsSeq.ne_nil {q : Text} (h : IsSeq q) : q ≠ [] := by
  cases h <;> simp

theorem IsSeq.two_le {q : Text} (h : IsSeq q) : 2 ≤ q.length := by
  cases h <;> simp <;> omega

/-- What a match of `peelMatch` guarantees of its token: `seq` is a complete sequence, and a token without `numbers`
    (an m2 match) has a command in 0x40-0x5f, so is not an 'm' token. -/
def Token.Good (t : Token) : Prop := IsSeq t.seq ∧ (t.numbers.isSome = true ∨ isFe t.command = true)

/-- What m1 matches after the introducer `csi`, and the groupdict it yields. -/
theorem csiBody_some {csi r : Text} {t : Token} {rest : Text} (h : csiBody csi r = some (t, rest)) :
    ∃ ps is c, (∀ x ∈ ps, isParam x = true) ∧ (∀ x ∈ is, isIntermed x = true) ∧ isFinal c = true ∧
      r = ps ++ is ++ c :: rest ∧ t = ⟨csi, some (.raw ps), is, c, csi ++ ps ++ is ++ [c]⟩ := by
  unfold csiBody at h
  simp only [] at h
  split at h
  · rename_i cmd rest' hd
    split at h
    · rename_i hf
      cases h
      refine ⟨_, _, cmd, numsLen_chars _ _, List.all_eq_true.mp List.all_takeWhile, hf, ?_, rfl⟩
      have h2 := List.takeWhile_append_dropWhile (p := isIntermed) (l := r.drop (numsLen false r))
      rw [hd] at h2
      rw [List.append_assoc, h2, List.take_append_drop]
    · cases h
  · cases h

theorem matchCsiAt_some {s : Text} {t : Token} {rest : Text} (h : matchCsiAt s = some (t, rest)) :
    s = t.seq ++ rest ∧ t.Good := by
  unfold matchCsiAt at h
  split at h
  · cases h
  · split at h
    · rename_i hc
      split at h
      · split at h
        · rename_i hc2
          subst hc hc2
          obtain ⟨ps, is, c, hp, hi, hf, rfl, rfl⟩ := csiBody_some h
          exact ⟨by simp, .csi7 ps is c hp hi hf, .inl rfl⟩
        · cases h
      · cases h
    · split at h
      · rename_i hc
        subst hc
        obtain ⟨ps, is, c, hp, hi, hf, rfl, rfl⟩ := csiBody_some h
        exact ⟨by simp, .csi8 ps is c hp hi hf, .inl rfl⟩
      · cases h

theorem matchEsc2At_some {s : Text} {t : Token} {rest : Text} (h : matchEsc2At s = some (t, rest)) :
    s = t.seq ++ rest ∧ t.Good := by
  unfold matchEsc2At at h
  split at h
  · split at h
    · rename_i hc
      cases h
      exact ⟨by rw [hc.1]; rfl, .esc2 _ hc.2, .inr hc.2⟩
    · cases h
  · cases h

/-- `re.match(m1, s)` returns the match of `seq` at the end of its front. -/
theorem findCsi_some {s f rest : Text} {t : Token} (h : findCsi s = some (f, t, rest)) :
    ∃ s', s = f ++ s' ∧ matchCsiAt s' = some (t, rest) := by
  induction s generalizing f with
  | nil => cases h
  | cons c r ih =>
    rw [findCsi] at h
    split at h
    · rename_i hm
      cases h
      exact ⟨_, rfl, hm⟩
    · split at h
      · rename_i hf
        cases h
        obtain ⟨s', hs, hm⟩ := ih hf
        exact ⟨s', congrArg (c :: ·) hs, hm⟩
      · cases h

theorem findEsc2_some {s f rest : Text} {t : Token} (h : findEsc2 s = some (f, t, rest)) :
    ∃ s', s = f ++ s' ∧ matchEsc2At s' = some (t, rest) := by
  induction s generalizing f with
  | nil => cases h
  | cons c r ih =>
    rw [findEsc2] at h
    split at h
    · rename_i hm
      cases h
      exact ⟨_, rfl, hm⟩
    · split at h
      · rename_i hf
        cases h
        obtain ⟨s', hs, hm⟩ := ih hf
        exact ⟨s', congrArg (c :: ·) hs, hm⟩
      · cases h

theorem findCsi_spec {s f rest : Text} {t : Token} (h : findCsi s = some (f, t, rest)) :
    s = f ++ t.seq ++ rest ∧ t.seq.length ≥ 2 := by
  obtain ⟨s', rfl, hm⟩ := findCsi_some h
  obtain ⟨rfl, hg⟩ := matchCsiAt_some hm
  exact ⟨(List.append_assoc ..).symm, hg.1.two_le⟩

theorem findEsc2_spec {s f rest : Text} {t : Token} (h : findEsc2 s = some (f, t, rest)) :
    s = f ++ t.seq ++ rest ∧ t.seq.length ≥ 2 := by
  obtain ⟨s', rfl, hm⟩ := findEsc2_some h
  obtain ⟨rfl, hg⟩ := matchEsc2At_some hm
  exact ⟨(List.append_assoc ..).symm, hg.1.two_le⟩

theorem findCsi_shape {s f rest : Text} {t : Token} (h : findCsi s = some (f, t, rest)) : t.Good := by
  obtain ⟨s', -, hm⟩ := findCsi_some h
  exact (matchCsiAt_some hm).2

theorem findEsc2_shape {s f rest : Text} {t : Token} (h : findEsc2 s = some (f, t, rest)) : t.Good := by
  obtain ⟨s', -, hm⟩ := findEsc2_some h
  exact (matchEsc2At_some hm).2

/-- Proof-side, nothing in escseqparse.py corresponds: m1, else m2, at the head of `s` (see `peelMatch_cons`). -/
def matchAt (s : Text) : Option (Token × Text) := (matchCsiAt s).orElse fun _ => matchEsc2At s

theorem matchAt_some {s : Text} {t : Token} {rest : Text} (h : matchAt s = some (t, rest)) :
    s = t.seq ++ rest ∧ t.Good := by
  unfold matchAt at h
  cases h1 : matchCsiAt s with
  | some a => rw [h1] at h; cases h; exact matchCsiAt_some h1
  | none => rw [h1] at h; exact matchEsc2At_some h

/-- Of the shortest-front matches of m1 and m2 `peel_off_esc_code` takes the one with the shorter front, m1 on a
    tie: the two regexes act as ONE leftmost search, which at each position tries m1, then m2 (`matchAt`). -/
theorem peelMatch_cons (c : Char) (r : Text) : peelMatch (c :: r) =
    match matchAt (c :: r) with
    | some (t, rest) => ([], some t, rest)
    | none => (c :: (peelMatch r).1, (peelMatch r).2.1, (peelMatch r).2.2) := by
  unfold matchAt
  rw [peelMatch, findCsi, findEsc2]
  cases matchCsiAt (c :: r) with
  | some a =>
    -- m1 matches here with front `[]`: no front is shorter, and m1 wins a tie
    cases matchEsc2At (c :: r) with
    | some b => rfl
    | none => cases findEsc2 r <;> rfl
  | none =>
    cases matchEsc2At (c :: r) with
    | some b => cases findCsi r <;> rfl
    | none =>
      -- neither matches here: both fronts grow by `c`, which leaves the comparison as it was
      rw [peelMatch]
      cases findCsi r with
      | none => cases findEsc2 r <;> rfl
      | some a =>
        cases findEsc2 r with
        | none => rfl
        | some b =>
          simp only [Option.orElse_none, List.length_cons, Nat.add_le_add_iff_right]
          split <;> rfl

theorem peelMatch_cases (s : Text) :
    (∃ f t r, peelMatch s = (f, some t, r) ∧ s = f ++ t.seq ++ r ∧ t.Good) ∨ peelMatch s = (s, none, []) := by
  induction s with
  | nil => exact .inr rfl
  | cons c s ih =>
    rw [peelMatch_cons]
    cases hm : matchAt (c :: s) with
    | some a => exact .inl ⟨[], a.1, a.2, rfl, matchAt_some hm⟩
    | none =>
      rcases ih with ⟨f, t, r, hp, hs, hg⟩ | hp
      · exact .inl ⟨c :: f, t, r, by rw [hp], congrArg (c :: ·) hs, hg⟩
      · exact .inr (by rw [hp])

theorem peelMatch_rest_lt (s : Text) (h : (peelMatch s).2.2 ≠ []) :
    (peelMatch s).2.2.length < s.length := by
  rcases peelMatch_cases s with ⟨f, t, r, hp, hs, hg⟩ | hp
  · have := List.length_pos_iff.mpr hg.1.ne_nil
    rw [hp, congrArg List.length hs]
    simp only [List.length_append]
    omega
  · rw [hp] at h
    exact absurd rfl h

theorem peel_ok {md : Nat} {s : Text} {r : Text × Option Token × Text} (h : peel md s = .ok r) :
    r.1 = (peelMatch s).1 ∧ r.2.2 = (peelMatch s).2.2 := by
  unfold peel at h
  split at h
  · cases h
  · cases h; exact ⟨rfl, rfl⟩

/-! ### parse -/

/-- An element of the list `parse` returns: a `str` or a dict. -/
inductive Item
  | str (t : Text)
  | upd (u : Upd)
  deriving DecidableEq, Repr

/-- The `if token:` block of the loop body: the dicts to append, or the exception.
    (`except ValueError: raise ValueError(...)` re-raises the same kind; other kinds propagate.) -/
def tokenItems : Option Token → Except PyErr (List Item)
  | none => .ok []
  | some tok =>
    match tokenType tok with
    | .error e => .error e
    | .ok none => .ok []
    | .ok (some l) => .ok (l.map .upd)

/-- The `while True` loop of `parse`, one iteration per call; `s` is the running variable `rest`. The list
    returned is what the iteration and all later ones append to `stuff`. Terminates because a peeled
    sequence has at least two characters (`peelMatch_rest_lt`), and without a token `rest` is empty.
    (`peel_off_esc_code` is called outside the `try`: its ValueError propagates unchanged.) -/
def parseLoop (md : Nat) (s : Text) : Except PyErr (List Item) :=
  match hp : peel md s with
  | .error e => .error e
  | .ok r =>
    let front : List Item := if r.1.isEmpty then [] else [.str r.1]
    match tokenItems r.2.1 with
    | .error e => .error e
    | .ok toks =>
      if _h : r.2.2 = [] then .ok (front ++ toks)         -- if not rest: break
      else
        match parseLoop md r.2.2 with
        | .error e => .error e
        | .ok more => .ok (front ++ toks ++ more)
termination_by s.length
decreasing_by
  rw [(peel_ok hp).2] at _h ⊢
  exact peelMatch_rest_lt s _h

/-- `parse(s)` -/
def parse (md : Nat) (s : Text) : Except PyErr (List Item) := parseLoop md s

/-! ### remove_ansi -/

/-- `[0-?]*[ -\/]*[@-~]` at the head of `r`, after an introducer of `k` characters: length of the whole match. -/
def ansiBody (k : Nat) (r : Text) : Option Nat :=
  let p := r.takeWhile isParam
  let r1 := r.dropWhile isParam
  let i := r1.takeWhile isIntermed
  match r1.dropWhile isIntermed with
  | cmd :: _ => if isFinal cmd then some (k + p.length + i.length + 1) else none
  | [] => none

/-- Length of the match of `(\x9B|\x1B\[)[0-?]*[ -\/]*[@-~]` at the head of the text, if it matches. -/
def ansiLen : Text → Option Nat
  | [] => none
  | c :: r =>
    if c = CSI8 then ansiBody 1 r
    else if c = ESC then
      match r with
      | c2 :: r' => if c2 = '[' then ansiBody 2 r' else none
      | [] => none
    else none

/-- `re.sub(pattern, "", s)`: scan left to right; `skip` = characters of the current match still to drop. -/
def removeAnsiAux : Nat → Text → Text
  | _, [] => []
  | skip + 1, _ :: r => removeAnsiAux skip r
  | 0, c :: r =>
    match ansiLen (c :: r) with
    | some n => removeAnsiAux (n - 1) r
    | none => c :: removeAnsiAux 0 r

/-- `remove_ansi(s)` -/
def removeAnsi (s : Text) : Text := removeAnsiAux 0 s

/-! ### FmtStr.from_str, fmtstr -/

/-- `"\x1b[" in s` -/
def hasEscBracket : Text → Bool
  | a :: b :: r => (a == ESC && b == '[') || hasEscBracket (b :: r)
  | _ => false

theorem hasEscBracket_iff (s : Text) : hasEscBracket s = true ↔ [ESC, '['] <:+: s := by
  induction s with
  | nil => simp [hasEscBracket]
  | cons a r ih =>
    cases r with
    | nil => simp [hasEscBracket, List.IsInfix, List.append_eq_cons_iff]
    | cons b r =>
      rw [hasEscBracket, Bool.or_eq_true, ih, List.infix_cons_iff (l₂ := b :: r)]
      simp only [List.cons_prefix_cons, List.nil_prefix, and_true, Bool.and_eq_true, beq_iff_eq]
      rw [eq_comm (a := a), eq_comm (a := b)]

/-- `cur_fmt.update(x)` followed (at use) by the `v is not None` filter and `parse_args`:
    a key set to None and an absent key are both `none`. -/
def applyUpd (u : Upd) (a : Atts) : Atts :=
  match u with
  | .setFg i => { a with fg := some i }
  | .setBg i => { a with bg := some i }
  | .setStyle .bold => { a with bold := some true }
  | .setStyle .dark => { a with dark := some true }
  | .setStyle .italic => { a with italic := some true }
  | .setStyle .underline => { a with underline := some true }
  | .setStyle .blink => { a with blink := some true }
  | .setStyle .invert => { a with invert := some true }
  | .resetAll => {}
  | .resetFg => { a with fg := none }
  | .resetBg => { a with bg := none }
  | .nothing => a

/-- The `for x in tokens_and_strings` loop; `cur` is `cur_fmt`. -/
def fromStrLoop : Atts → List Item → List Chunk
  | _, [] => []
  | cur, .upd u :: xs => fromStrLoop (applyUpd u cur) xs
  | cur, .str t :: xs => ⟨t, cur⟩ :: fromStrLoop cur xs

/-- `FmtStr.from_str(s)` -/
def fromStr (md : Nat) (s : Text) : Except PyErr FmtStr :=
  if hasEscBracket s then
    match parse md s with
    | .ok items => .ok (fromStrLoop {} items)
    | .error .valueError => .ok [⟨removeAnsi s, {}⟩]
    | .error e => .error e
  else .ok [⟨s, {}⟩]

theorem fromStr_noEsc (md : Nat) (t : Text) (h : hasEscBracket t = false) : fromStr md t = .ok [⟨t, {}⟩] := by
  unfold fromStr
  rw [h]; rfl

/-- `fmtstr(s, **atts)` for a `str` and already validated attributes (`parse_args` accepted them). -/
def fmtstrOf (md : Nat) (s : Text) (a : Atts) : Except PyErr FmtStr :=
  match fromStr md s with
  | .ok f => .ok (copyWithNewAtts f a)
  | .error e => .error e

end Curtsies
