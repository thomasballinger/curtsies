/-
  `str | FmtStr` operands (shared by C06 join, C09 splice/append, C04 rows): the library converts a plain `str`
  operand with `fmtstr(s)` = `FmtStr.from_str(s).copy_with_new_atts()` — which PARSES escape sequences — in
  `join`, `splice`, `append`, `setslice_with_length`, `fsarray`, `linesplit`; only `+` wraps it with `Chunk(s)`.
  (Open finding D27: for a str containing `ESC[` the operand's characters do not come out verbatim/unformatted.)
-/
import Curtsies.Model.FmtStr
import Curtsies.Model.EscParse
namespace Curtsies

inductive Operand
  | str (t : Text)
  | fmt (f : FmtStr)
  deriving Repr

/-- `x if isinstance(x, FmtStr) else fmtstr(x)`; `md` is CPython's int/str digit limit that `fromStr` takes
    (`sys.get_int_max_str_digits()`, regenerated as `Generated.intMaxStrDigits`). -/
def Operand.toFmt (md : Nat) : Operand → Except PyErr FmtStr
  | .str t => (fromStr md t).map fun f => copyWithNewAtts f {}
  | .fmt f => .ok f

/-- Python `len(x)` of the RAW operand (what `splice` tests before converting). -/
def Operand.rawLen : Operand → Nat
  | .str t => t.length
  | .fmt f => len f

/-- what the operand's characters are if a plain str is taken verbatim and unformatted -/
def Operand.cells : Operand → List Cell
  | .str t => plainCells t
  | .fmt f => Curtsies.cells f

/-- the property's domain for plain-str operands in the theorems (complement of D27's footprint) -/
def Operand.EscFree : Operand → Prop
  | .str t => ¬ [ESC, '['] <:+: t
  | .fmt _ => True

/-- `sep.join(items)` with str / FmtStr items as the library converts them (`fmtstr(s).chunks` for a str). -/
def joinItems (md : Nat) (sep : FmtStr) (items : List Operand) : Except PyErr FmtStr :=
  (items.mapM (Operand.toFmt md)).map (join sep)

/-- `Operand.EscFree` as `fromStr` tests it (`hasEscBracket`): statements use `EscFree`, proofs compute with this. -/
def NoEsc : Operand → Prop
  | .str t => hasEscBracket t = false
  | .fmt _ => True

theorem NoEsc_of_EscFree (o : Operand) (h : o.EscFree) : NoEsc o := by
  cases o with
  | fmt f => trivial
  | str t => exact Bool.eq_false_iff.mpr fun hb => h ((hasEscBracket_iff t).mp hb)

/-- The FmtStr an ESC-free operand converts to. -/
def asFmt : Operand → FmtStr
  | .str t => [⟨t, {}⟩]
  | .fmt f => f

theorem asFmt_cells (o : Operand) : cells (asFmt o) = o.cells := by
  cases o <;> simp [asFmt, Operand.cells, plainCells, Chunk.cells]

theorem asFmt_len (o : Operand) : len (asFmt o) = o.rawLen := by
  cases o <;> simp [asFmt, Operand.rawLen]

theorem cells_rawLen (o : Operand) : o.cells.length = o.rawLen := by
  rw [← asFmt_cells, cells_length, asFmt_len]

theorem Atts.extend_empty (a : Atts) : a.extend {} = a := by
  cases a; simp [Atts.extend]

theorem copyWithNewAtts_empty (f : FmtStr) : copyWithNewAtts f {} = f := by
  induction f with
  | nil => rfl
  | cons c f ih =>
    simp only [copyWithNewAtts, List.map_cons] at ih ⊢
    rw [ih, Atts.extend_empty]

theorem toFmt_noEsc (md : Nat) (o : Operand) (h : NoEsc o) : o.toFmt md = .ok (asFmt o) := by
  cases o with
  | fmt f => rfl
  | str t =>
    simp only [NoEsc] at h
    simp only [Operand.toFmt, fromStr_noEsc md t h, Except.map, asFmt]
    rw [copyWithNewAtts_empty]

theorem hasEscBracket_cons_of_ne {a : Char} (h : a ≠ ESC) (s : Text) :
    hasEscBracket (a :: s) = hasEscBracket s := by
  cases s with
  | nil => rfl
  | cons b r => simp [hasEscBracket, h]

theorem hasEscBracket_spaces_append (k : Nat) (t : Text) : hasEscBracket (spaces k ++ t) = hasEscBracket t := by
  induction k with
  | zero => rfl
  | succ k ih =>
    rw [spaces, List.replicate_succ, List.cons_append, hasEscBracket_cons_of_ne (by decide)]
    exact ih

theorem hasEscBracket_spaces (k : Nat) : hasEscBracket (spaces k) = false := by
  have := hasEscBracket_spaces_append k []
  rwa [List.append_nil] at this

theorem hasEscBracket_append_spaces (t : Text) (k : Nat) : hasEscBracket (t ++ spaces k) = hasEscBracket t := by
  match t with
  | [] => exact hasEscBracket_spaces k
  | [a] =>
    -- a space after the last character is not `[`
    cases k with
    | zero => rfl
    | succ k =>
      have := hasEscBracket_spaces (k + 1)
      simp only [spaces, List.replicate_succ] at this ⊢
      simp [hasEscBracket, this]
  | a :: b :: r =>
    have ih := hasEscBracket_append_spaces (b :: r) k
    simp only [List.cons_append, hasEscBracket] at ih ⊢
    rw [ih]

end Curtsies
