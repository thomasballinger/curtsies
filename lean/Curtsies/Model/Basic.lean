/-
  Basic value model of curtsies formatted strings (import-free).

  Python object                         Lean value
  -----------------------------------   ---------------------------------------------
  str (sequence of code points)         `Text := List Char`
  FrozenAttributes (dict, 8 legal keys) `Atts` (a field is `none` when the key is absent,
                                        `some false` when it is present with value False)
  Chunk(s, atts)                        `Chunk`
  FmtStr(*chunks)                       `FmtStr := List Chunk`

  The field order of `Atts` is Python's `sorted()` order of the keys
  ('bg' < 'blink' < 'bold' < 'dark' < 'fg' < 'invert' < 'italic' < 'underline'),
  which is the order `Chunk.color_str`, `Chunk.repr_part` and `FmtStr.shared_atts` iterate in.
  Colours are `Fin 8`: index i is SGR code 30+i (foreground) / 40+i (background), i.e.
  black red green yellow blue magenta cyan gray.
-/
namespace Curtsies

abbrev Text := List Char

/-- Python exception kinds the modelled operations can raise. -/
inductive PyErr
  | valueError | indexError | keyError | typeError | assertionError
  | unicodeDecodeError | notImplementedError | otherException
  deriving DecidableEq, Repr, Inhabited

def PyErr.name : PyErr → String
  | .valueError => "ValueError" | .indexError => "IndexError" | .keyError => "KeyError"
  | .typeError => "TypeError" | .assertionError => "AssertionError"
  | .unicodeDecodeError => "UnicodeDecodeError" | .notImplementedError => "NotImplementedError"
  | .otherException => "Exception"

structure Atts where
  bg : Option (Fin 8) := none
  blink : Option Bool := none
  bold : Option Bool := none
  dark : Option Bool := none
  fg : Option (Fin 8) := none
  invert : Option Bool := none
  italic : Option Bool := none
  underline : Option Bool := none
  deriving DecidableEq, Repr, Inhabited

/-- The eight attribute names, in Python's sorted order. -/
inductive Key | bg | blink | bold | dark | fg | invert | italic | underline
  deriving DecidableEq, Repr, Inhabited

def Key.all : List Key := [.bg, .blink, .bold, .dark, .fg, .invert, .italic, .underline]

/-- What a terminal can show: colour or default, style on or off. -/
structure Eff where
  bg : Option (Fin 8) := none
  blink : Bool := false
  bold : Bool := false
  dark : Bool := false
  fg : Option (Fin 8) := none
  invert : Bool := false
  italic : Bool := false
  underline : Bool := false
  deriving DecidableEq, Repr, Inhabited

def flag (o : Option Bool) : Bool := o.getD false

/-- Effective formatting of an attribute set: an absent style and an explicit `False` look the same. -/
def Atts.eff (a : Atts) : Eff :=
  { bg := a.bg, blink := flag a.blink, bold := flag a.bold, dark := flag a.dark,
    fg := a.fg, invert := flag a.invert, italic := flag a.italic, underline := flag a.underline }

/-- `FrozenAttributes.extend`: `dict(chain(self.items(), other.items()))` – later wins. -/
def Atts.extend (a b : Atts) : Atts :=
  { bg := b.bg.orElse fun _ => a.bg, blink := b.blink.orElse fun _ => a.blink,
    bold := b.bold.orElse fun _ => a.bold, dark := b.dark.orElse fun _ => a.dark,
    fg := b.fg.orElse fun _ => a.fg, invert := b.invert.orElse fun _ => a.invert,
    italic := b.italic.orElse fun _ => a.italic, underline := b.underline.orElse fun _ => a.underline }

/-- Is key `k` present in the dict? -/
def Atts.has (a : Atts) : Key → Bool
  | .bg => a.bg.isSome | .blink => a.blink.isSome | .bold => a.bold.isSome | .dark => a.dark.isSome
  | .fg => a.fg.isSome | .invert => a.invert.isSome | .italic => a.italic.isSome
  | .underline => a.underline.isSome

/-- Delete one key. -/
def Atts.erase (a : Atts) : Key → Atts
  | .bg => { a with bg := none } | .blink => { a with blink := none }
  | .bold => { a with bold := none } | .dark => { a with dark := none }
  | .fg => { a with fg := none } | .invert => { a with invert := none }
  | .italic => { a with italic := none } | .underline => { a with underline := none }

/-- `FrozenAttributes.remove(*keys)`. -/
def Atts.remove (a : Atts) (ks : List Key) : Atts := ks.foldl Atts.erase a

/-- Keep the entries of `a` on which `b` has the same entry (`shared_atts` for two dicts). -/
def Atts.inter (a b : Atts) : Atts :=
  { bg := if a.bg = b.bg then a.bg else none, blink := if a.blink = b.blink then a.blink else none,
    bold := if a.bold = b.bold then a.bold else none, dark := if a.dark = b.dark then a.dark else none,
    fg := if a.fg = b.fg then a.fg else none, invert := if a.invert = b.invert then a.invert else none,
    italic := if a.italic = b.italic then a.italic else none,
    underline := if a.underline = b.underline then a.underline else none }

/-- `a ⊑ b`: every entry of `a` is an entry of `b`. -/
def Atts.le (a b : Atts) : Prop :=
  (a.bg.isSome → a.bg = b.bg) ∧ (a.blink.isSome → a.blink = b.blink) ∧
  (a.bold.isSome → a.bold = b.bold) ∧ (a.dark.isSome → a.dark = b.dark) ∧
  (a.fg.isSome → a.fg = b.fg) ∧ (a.invert.isSome → a.invert = b.invert) ∧
  (a.italic.isSome → a.italic = b.italic) ∧ (a.underline.isSome → a.underline = b.underline)

structure Chunk where
  s : Text
  atts : Atts := {}
  deriving DecidableEq, Repr, Inhabited

abbrev FmtStr := List Chunk

abbrev Cell := Char × Atts

def Chunk.cells (c : Chunk) : List Cell := c.s.map fun ch => (ch, c.atts)

/-- Per-character view: every character with the attribute dict of the run it lives in. -/
def cells (f : FmtStr) : List Cell := f.flatMap Chunk.cells

/-- Per-character view as a terminal would show it. -/
def effCells (f : FmtStr) : List (Char × Eff) := (cells f).map fun p => (p.1, p.2.eff)

/-- `FmtStr.s` -/
def text (f : FmtStr) : Text := f.flatMap Chunk.s

/-- `len(FmtStr)` -/
def len (f : FmtStr) : Nat := (f.map fun c => c.s.length).sum

/-- Cells of a plain `str` operand: unformatted. -/
def plainCells (t : Text) : List Cell := t.map fun ch => (ch, {})

@[simp] theorem cells_nil : cells ([] : FmtStr) = [] := rfl
@[simp] theorem cells_cons (c : Chunk) (f : FmtStr) : cells (c :: f) = c.cells ++ cells f := by
  simp [cells]
@[simp] theorem cells_append (f g : FmtStr) : cells (f ++ g) = cells f ++ cells g := by
  simp [cells]
@[simp] theorem Chunk.cells_length (c : Chunk) : c.cells.length = c.s.length := by
  simp [Chunk.cells]
@[simp] theorem len_nil : len ([] : FmtStr) = 0 := rfl
@[simp] theorem len_cons (c : Chunk) (f : FmtStr) : len (c :: f) = c.s.length + len f := by
  simp [len]
theorem cells_length (f : FmtStr) : (cells f).length = len f := by
  induction f with
  | nil => rfl
  | cons c f ih => simp [ih]
theorem text_cons (c : Chunk) (f : FmtStr) : text (c :: f) = c.s ++ text f := by simp [text]
theorem text_append (f g : FmtStr) : text (f ++ g) = text f ++ text g := List.flatMap_append
theorem Chunk.cells_fst (c : Chunk) : c.cells.map Prod.fst = c.s := by
  simp [Chunk.cells, Function.comp_def]
theorem Chunk.cells_take_drop (c : Chunk) (k j : Nat) :
    Chunk.cells ⟨(c.s.take k).drop j, c.atts⟩ = (c.cells.take k).drop j := by
  simp [Chunk.cells, List.map_take, List.map_drop]
theorem Chunk.cells_take (c : Chunk) (k : Nat) : Chunk.cells ⟨c.s.take k, c.atts⟩ = c.cells.take k :=
  Chunk.cells_take_drop c k 0
theorem text_eq_cells (f : FmtStr) : text f = (cells f).map Prod.fst := by
  induction f with
  | nil => rfl
  | cons c f ih => rw [text_cons, cells_cons, List.map_append, Chunk.cells_fst, ih]
theorem text_eq_effCells (f : FmtStr) : text f = (effCells f).map Prod.fst := by
  rw [text_eq_cells, effCells, List.map_map]
  rfl
theorem text_length (f : FmtStr) : (text f).length = len f := by
  rw [text_eq_cells, List.length_map, cells_length]

/-- Dropping the empty runs (`s for s in new_components if s.s`) does not change the cells. -/
theorem cells_filter_nonempty (f : FmtStr) :
    cells (f.filter fun c => !c.s.isEmpty) = cells f := by
  induction f with
  | nil => rfl
  | cons c f ih =>
    by_cases h : c.s.isEmpty
    · simp [ih, Chunk.cells, List.isEmpty_iff.mp h]
    · simp [h, ih]

theorem forall_cells_iff (f : FmtStr) (P : Atts → Prop) :
    (∀ p ∈ cells f, P p.2) ↔ ∀ c ∈ f.filter (fun c => !c.s.isEmpty), P c.atts := by
  simp only [cells, List.mem_flatMap, Chunk.cells, List.mem_map, List.mem_filter]
  constructor
  · rintro h c ⟨hc, hs⟩
    cases hcs : c.s with
    | nil => rw [hcs] at hs; cases hs
    | cons ch _ => exact h (ch, c.atts) ⟨c, hc, ch, by rw [hcs]; exact List.mem_cons_self .., rfl⟩
  · rintro h _ ⟨c, hc, ch, hch, rfl⟩
    have hne : (!c.s.isEmpty) = true := by
      cases hcs : c.s with
      | nil => rw [hcs] at hch; cases hch
      | cons _ _ => rfl
    exact h c ⟨hc, hne⟩

theorem cells_eq_nil_iff (f : FmtStr) : cells f = [] ↔ f.filter (fun c => !c.s.isEmpty) = [] := by
  rw [List.eq_nil_iff_forall_not_mem, List.eq_nil_iff_forall_not_mem]
  exact forall_cells_iff f fun _ => False

theorem lookup_mem {α β} [BEq α] [LawfulBEq α] {l : List (α × β)} {k : α} {v : β}
    (h : l.lookup k = some v) : (k, v) ∈ l := by
  obtain ⟨l₁, l₂, rfl, _⟩ := List.lookup_eq_some_iff.mp h
  exact List.mem_append_right _ List.mem_cons_self

/-- results of modelled operations are compared by `decide` in concrete witnesses and examples -/
instance exceptDecEq [DecidableEq ε] [DecidableEq α] : DecidableEq (Except ε α)
  | .ok a, .ok b => if h : a = b then isTrue (by rw [h]) else isFalse (by intro e; injection e; contradiction)
  | .error a, .error b => if h : a = b then isTrue (by rw [h]) else isFalse (by intro e; injection e; contradiction)
  | .ok _, .error _ => isFalse (by intro e; cases e)
  | .error _, .ok _ => isFalse (by intro e; cases e)

end Curtsies
