/-
  C09 - splice replaces exactly the requested range and nothing else.

  `cells f` is the per-character view (character, attribute dict of its run), so "f's first `start` characters, then
  the characters of new, then f's characters from `end` onward, every character keeping its own formatting" is
  `(cells f).take start ++ cells new ++ (cells f).drop e`. `List.take`/`List.drop` past the end are the whole list /
  the empty list, which is the "a start past the end appends" clause (and covers the quantifier range
  `start ≤ end ≤ len+2`, indeed every `start ≤ end`).  `text` and `len` follow (C09_splice_text, C09_splice_len).

  Hypotheses: `start ≤ end` only (the property's range; Python negative offsets and `end < start` are outside the
  statement - for `end < start` the code's `bfs.s[end - bfs_start:]` wraps around, the model's Nat subtraction
  truncates, and the drivers answer `bad-op`).
  Operands: C09_splice / C09_insert / C09_append are about a FmtStr operand. A plain `str` operand is converted by
  `fmtstr(new_str)`, which PARSES escape sequences, and the early return tests the RAW `len(new_str)`
  (Model/SpliceOp.lean `spliceOp`, shared `Operand`). The statement for every operand is `C09_full_statement`; it is
  refuted by `C09_D27_witness` (open finding D27); `C09_*_operand_partial` carry the hypothesis `Operand.EscFree`
  (no `ESC [` in a str operand), under which the str's characters come out verbatim and unformatted.

  "f itself is unchanged": in this value model `splice` is a function of immutable values, so there is nothing
  to state; the heap-level statement (no `Chunk`/`FmtStr` object reachable from `f` is mutated, memoised views
  stay valid) is C13's. The harness oracle checks it on the real objects (str(f), f.s, repr(f) before/after).
-/
import Curtsies.Model.FmtStr
import Curtsies.Proofs.Splice
namespace Curtsies
open Splice

/-- `f.splice(new, start, end)` for every FmtStr `f`, every FmtStr `new` and every `start ≤ end` (no upper bound:
    offsets past the end behave as `len`); each character with the attribute dict it had. -/
theorem C09_splice (f new : FmtStr) (start e : Nat) (h : start ≤ e) :
    cells (splice f new start (some e)) = (cells f).take start ++ cells new ++ (cells f).drop e := by
  simpa using splice_cells f new start (some e) (by simpa using h)

/-- `end` omitted: it defaults to `start` - a pure insertion that deletes nothing. -/
theorem C09_insert (f new : FmtStr) (start : Nat) :
    cells (splice f new start none) = (cells f).take start ++ cells new ++ (cells f).drop start := by
  simpa using splice_cells f new start none (by simp)

/-- "a start past the end appends" made explicit. -/
theorem C09_splice_past_end (f new : FmtStr) (start e : Nat) (h : start ≤ e) (hp : len f ≤ start) :
    cells (splice f new start (some e)) = cells f ++ cells new :=
  splice_cells_past_end f new start (some e) h hp

/-- `f.append(x)` = `f.splice(x, len(f.s))`. -/
theorem C09_append (f new : FmtStr) : cells (append f new) = cells f ++ cells new :=
  splice_cells_past_end f new (len f) none (by simp) (Nat.le_refl _)

/-- The property for every operand, plain `str` included: the characters of a `str` come out verbatim and
    unformatted (`Operand.cells`). FALSE for the code as it is (`C09_D27_witness`); what holds is
    `C09_splice_operand_partial` (ESC-free str). -/
def C09_full_statement : Prop :=
  ∀ (md : Nat) (f : FmtStr) (new : Operand) (start e : Nat), start ≤ e →
    ∃ r, spliceOp md f new start (some e) = .ok r ∧
      cells r = (cells f).take start ++ new.cells ++ (cells f).drop e

/-- `C09_splice` with `new` a FmtStr or a plain `str` that does not contain `ESC [` (`Operand.EscFree`, the complement
    of finding D27's footprint): the characters of a `str` come out unformatted. -/
theorem C09_splice_operand_partial (md : Nat) (f : FmtStr) (new : Operand) (start e : Nat) (h : start ≤ e)
    (hesc : new.EscFree) :
    ∃ r, spliceOp md f new start (some e) = .ok r ∧
      cells r = (cells f).take start ++ new.cells ++ (cells f).drop e :=
  ⟨_, spliceOp_noEsc md f new start (some e) (NoEsc_of_EscFree new hesc),
    by rw [C09_splice f _ start e h, asFmt_cells]⟩

theorem C09_insert_operand_partial (md : Nat) (f : FmtStr) (new : Operand) (start : Nat) (hesc : new.EscFree) :
    ∃ r, spliceOp md f new start none = .ok r ∧
      cells r = (cells f).take start ++ new.cells ++ (cells f).drop start :=
  ⟨_, spliceOp_noEsc md f new start none (NoEsc_of_EscFree new hesc), by rw [C09_insert, asFmt_cells]⟩

theorem C09_append_operand_partial (md : Nat) (f : FmtStr) (new : Operand) (hesc : new.EscFree) :
    ∃ r, appendOp md f new = .ok r ∧ cells r = cells f ++ new.cells :=
  ⟨_, spliceOp_noEsc md f new (len f) none (NoEsc_of_EscFree new hesc), by
    rw [← asFmt_cells]
    exact C09_append f (asFmt new)⟩

/-- Non-vacuity of `Operand.EscFree`: a plain str with a lone ESC and a lone '[' but no `ESC [`. -/
example : (Operand.str ['x', ESC, ' ', '[', 'y']).EscFree := by
  show ¬ [ESC, '['] <:+: ['x', ESC, ' ', '[', 'y']; decide
example : ((spliceOp 4300 [⟨['a', 'b'], { fg := some 1 }⟩] (.str ['x', ESC, ' ', '[', 'y']) 1 (some 2)).toOption.map cells)
    = some [('a', { fg := some 1 }), ('x', {}), (ESC, {}), (' ', {}), ('[', {}), ('y', {})] := by decide +kernel

/-- D27 at a concrete point: `fmtstr('abc').splice('\x1b[31mX\x1b[39m', 1, 1)` is `a`, a RED `X`, `bc` - four
    cells, although the str has eleven characters and a plain str's characters should be unformatted. -/
theorem C09_D27_cells :
    ((spliceOp 4300 [⟨['a', 'b', 'c'], {}⟩] (.str [ESC, '[', '3', '1', 'm', 'X', ESC, '[', '3', '9', 'm']) 1
        (some 1)).toOption.map cells)
      = some [('a', {}), ('X', { fg := some 1 }), ('b', {}), ('c', {})] := by decide +kernel

theorem C09_D27_witness : ¬ C09_full_statement := by
  intro h
  obtain ⟨r, hr, hc⟩ := h 4300 [⟨['a', 'b', 'c'], {}⟩] (.str [ESC, '[', '3', '1', 'm', 'X', ESC, '[', '3', '9', 'm']) 1 1
    (Nat.le_refl _)
  have h1 := C09_D27_cells
  rw [hr] at h1
  simp only [Except.toOption, Option.map_some, Option.some.injEq] at h1
  have := congrArg List.length (h1.symm.trans hc)
  revert this
  decide

theorem C09_splice_text (f new : FmtStr) (start e : Nat) (h : start ≤ e) :
    text (splice f new start (some e)) = (text f).take start ++ text new ++ (text f).drop e := by
  simp only [text_eq_cells, C09_splice f new start e h, List.map_append, List.map_take, List.map_drop]

theorem C09_splice_len (f new : FmtStr) (start e : Nat) (h : start ≤ e) (he : e ≤ len f) :
    len (splice f new start (some e)) = len f - (e - start) + len new := by
  rw [← cells_length, C09_splice f new start e h, List.length_append, List.length_append, List.length_drop,
    List.length_take_of_le (by rw [cells_length]; exact Nat.le_trans h he), cells_length, cells_length]
  omega

theorem C09_insert_text (f new : FmtStr) (start : Nat) :
    text (splice f new start none) = (text f).take start ++ text new ++ (text f).drop start := by
  simp only [text_eq_cells, C09_insert, List.map_append, List.map_take, List.map_drop]

theorem C09_append_text (f new : FmtStr) : text (append f new) = text f ++ text new := by
  simp only [text_eq_cells, C09_append, List.map_append]

theorem C09_append_len (f new : FmtStr) : len (append f new) = len f + len new := by
  rw [← cells_length, C09_append, List.length_append, cells_length, cells_length]

/-- Non-vacuity: three runs with an empty one, replacement range from the end of the first run across the
    empty run into the third; and an insertion exactly at an interior run boundary, where a loop whose comparisons
    are off by one drops the run that follows (finding D3). -/
example : cells (splice [⟨['a','b'], {fg := some 1}⟩, ⟨[], {}⟩, ⟨['c','d'], {bold := some true}⟩]
      [⟨['X'], {bg := some 4}⟩, ⟨['Y'], {}⟩] 2 (some 3))
    = [('a', {fg := some 1}), ('b', {fg := some 1}), ('X', {bg := some 4}), ('Y', {}),
       ('d', {bold := some true})] := by decide
example : cells (splice [⟨['a'], {fg := some 1}⟩, ⟨['b'], {fg := some 4}⟩] [⟨['X'], {}⟩] 1 none)
    = [('a', {fg := some 1}), ('X', {}), ('b', {fg := some 4})] := by decide

end Curtsies
