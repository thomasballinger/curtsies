/-
  C15 - str methods on a FmtStr agree with str on its text.

  Natively implemented methods (`split`, `splitlines`, `join`, `ljust`, `rjust`) are characterised exactly, on the
  per-character view: same characters, each with its own formatting. Regex matching is CPython's, so `split` takes
  the list of match spans (`C15_split_spans`) and computes them itself only for an explicit separator
  (`C15_split_sep`). `ljust`/`rjust` do EXACTLY what the code does - with `sh = sharedAtts f`: if `sh` has a bg, the
  characters are unchanged and the padding carries `{bg}` only; otherwise every character loses its (non-shared) bg
  and the padding carries exactly `sh`; `C15_just_bounds` relates this to the statement's wording.
  `fmtstr(text, **dict)` inside ljust/rjust/delegation is modelled as written (from_str, parse_args,
  copy_with_new_atts); `C15_fmtstrAtts` shows it is `FmtStr(Chunk(text, dict))` for text free of `ESC [`.
  Delegated methods, generically (`C15_delegate_partial`; open finding D27 for result texts with `ESC [`): for an
  UNINTERPRETED str method `m`, the result has the text(s) `m` gives on the text and carries exactly `sharedAtts f`;
  non-text answers and exceptions pass through unchanged.
  PARTIAL by design: that `m` is CPython's `str.upper` etc. is not a Lean fact; regexes enter as span lists.
  Hypotheses: separator non-empty; result texts free of `ESC [` (else `fmtstr` re-parses them: C05/C17).
-/
import Curtsies.Model.StrMethods
import Curtsies.Model.Operand
import Curtsies.Proofs.Slice
import Curtsies.Spec.PySlice
import Curtsies.Properties.C14
import Curtsies.Properties.C14Sound
import Curtsies.Generated.EscParse
namespace Curtsies
open Spec

/-- the pieces of `l` between the spans: from the end of one span to the start of the next -/
def cutAt (l : List α) (spans : List (Nat × Nat)) : List (List α) :=
  (List.zip (0 :: spans.map Prod.snd) (spans.map Prod.fst ++ [l.length])).map fun p => (l.take p.2).drop p.1

theorem C15_split_spans (f : FmtStr) (spans : List (Nat × Nat)) :
    (splitSpans f spans).map cells = cutAt (cells f) spans ∧
    (splitSpans f spans).map text = cutAt (text f) spans := by
  simp [splitSpans, cutAt, List.map_map, Function.comp_def, getslice_cells, getslice_text, cells_length, text_length]

/-- The left side is `cutAt (pre ++ s)` with the first piece starting at `st` instead of 0: `pre` is the text already
    scanned, `s` the rest, `pre.drop st` the piece being collected. While `skip` characters of a separator found
    earlier are still to pass, the next piece starts behind them (`st = pre.length + skip`: `pre.drop st = []`). -/
private theorem cutAt_findSpansAux (sep : Text) (hsep : sep ≠ []) (s pre : Text) (skip st : Nat)
    (h : if skip = 0 then st ≤ pre.length else st = pre.length + skip) :
    (List.zip (st :: (findSpansAux sep s pre.length skip).map Prod.snd)
        ((findSpansAux sep s pre.length skip).map Prod.fst ++ [(pre ++ s).length])).map
      (fun p => ((pre ++ s).take p.2).drop p.1) = strSplitAux sep s skip (pre.drop st) := by
  induction s generalizing pre skip st with
  | nil => simp [findSpansAux, strSplitAux]
  | cons c rest ih =>
    -- the induction hypothesis is used with `c` moved over to the scanned text
    have hl : pre ++ c :: rest = (pre ++ [c]) ++ rest := by simp
    have hlen : (pre ++ [c]).length = pre.length + 1 := by simp
    cases skip with
    | succ k =>
      -- `c` is part of a separator found earlier: the piece being collected is empty and stays so
      rw [if_neg (by omega)] at h
      simp only [findSpansAux, strSplitAux]
      have hrest := ih (pre ++ [c]) k st (by rw [hlen]; split <;> omega)
      rw [hlen, ← hl] at hrest
      rw [hrest, List.drop_eq_nil_of_le (by rw [hlen]; omega), List.drop_eq_nil_of_le (by omega)]
    | zero =>
      rw [if_pos rfl] at h
      simp only [findSpansAux, strSplitAux]
      by_cases hp : sep.isPrefixOf (c :: rest) = true
      · -- a separator starts at `c`: the piece ends here, the next one starts behind the separator
        rw [if_pos hp, if_pos hp]
        have hsl : 0 < sep.length := List.length_pos_iff.mpr hsep
        have hrest := ih (pre ++ [c]) (sep.length - 1) (pre.length + sep.length) (by rw [hlen]; split <;> omega)
        rw [hlen, ← hl] at hrest
        simp only [List.map_cons, List.cons_append, List.zip_cons_cons]
        rw [hrest, List.take_left' rfl, List.drop_eq_nil_of_le (as := pre ++ [c]) (by rw [hlen]; omega)]
      · -- an ordinary character: it joins the piece
        rw [if_neg hp, if_neg hp]
        have hrest := ih (pre ++ [c]) 0 st (by rw [hlen, if_pos rfl]; omega)
        rw [hlen, ← hl] at hrest
        rw [hrest, List.drop_append_of_le_length h]

theorem C15_split_sep_spec (sep : Text) (hsep : sep ≠ []) (t : Text) :
    cutAt t (findSpans sep t) = strSplit sep t :=
  cutAt_findSpansAux sep hsep t [] 0 0 (Nat.le_refl _)

/-- `f.split(sep)`, explicit separator: an empty separator raises ValueError (as `str.split('')`); otherwise the texts
    of the pieces are `str.split(sep)` of the text, the pieces the slices of `f` at the same positions. -/
theorem C15_split_sep (f : FmtStr) (sep : Text) :
    (sep = [] → splitSep f sep = .error .valueError) ∧
    (sep ≠ [] → ∃ ps, splitSep f sep = .ok ps ∧ ps.map text = strSplit sep (text f) ∧
      ps.map cells = cutAt (cells f) (findSpans sep (text f)) ∧
      ps.map text = cutAt (text f) (findSpans sep (text f))) := by
  constructor
  · intro h; simp [splitSep, h]
  · intro hsep
    have h := C15_split_spans f (findSpans sep (text f))
    exact ⟨_, by simp [splitSep, hsep], by rw [h.2, C15_split_sep_spec sep hsep], h.1, h.2⟩

private theorem linePairs_flatten (isBreak : Char → Bool) (s cur : Text) :
    (linePairs isBreak s cur).flatMap (fun p => p.1 ++ p.2) = cur ++ s := by
  fun_induction linePairs isBreak s cur <;> simp_all

/-- the (start, end) positions `splitlines` slices at -/
def lineSpans (keepends : Bool) : Nat → List (Text × Text) → List (Nat × Nat)
  | _, [] => []
  | start, (l, e) :: rest =>
    (start, start + (if keepends then (l ++ e).length else l.length)) ::
      lineSpans keepends (start + (l ++ e).length) rest

private theorem loop_spans (f : FmtStr) (keep : Bool) (ps : List (Text × Text)) (start : Nat) :
    splitlinesLoop f keep start (ps.map fun p => (p.1 ++ p.2, p.1))
      = (lineSpans keep start ps).map fun p => getslice f p.1 p.2 := by
  induction ps generalizing start with
  | nil => rfl
  | cons p rest ih =>
    obtain ⟨l, e⟩ := p
    simp only [List.map_cons, splitlinesLoop, lineSpans, ih]

private theorem slice_mid (pre x y : List α) :
    ((pre ++ x ++ y).take (pre.length + x.length)).drop pre.length = x := by
  rw [List.take_append_of_le_length (by simp), List.take_of_length_le (by simp)]
  simp

private theorem spans_text (t : Text) (keep : Bool) (ps : List (Text × Text)) (pre : Text)
    (h : t = pre ++ ps.flatMap fun p => p.1 ++ p.2) :
    (lineSpans keep pre.length ps).map (fun p => (t.take p.2).drop p.1)
      = ps.map fun p => if keep then p.1 ++ p.2 else p.1 := by
  induction ps generalizing pre with
  | nil => rfl
  | cons p rest ih =>
    obtain ⟨l, e⟩ := p
    simp only [lineSpans, List.map_cons, List.flatMap_cons] at h ⊢
    have hrest := ih (pre ++ (l ++ e)) (by rw [h]; simp)
    rw [List.length_append] at hrest
    rw [hrest]
    congr 1
    -- the first span cuts `l ++ e`, or `l` alone, out of `t = pre ++ l ++ e ++ …`
    rw [h]
    cases keep with
    | true => simpa [List.append_assoc] using slice_mid pre (l ++ e) (rest.flatMap fun p => p.1 ++ p.2)
    | false => simpa [List.append_assoc] using slice_mid pre l (e ++ rest.flatMap fun p => p.1 ++ p.2)

/-- `f.splitlines(keepends)`: the texts are `str.splitlines(keepends)` of the text; piece i is the slice of `f` -
    characters with their own formatting - at span i of `lineSpans` (start of the line, end of its content or of its
    line ending), and these spans cut the TEXT into exactly the lines of `str.splitlines`. -/
theorem C15_splitlines (isBreak : Char → Bool) (f : FmtStr) (keepends : Bool) :
    (splitlines isBreak f keepends).map text = strSplitlines isBreak keepends (text f) ∧
    (splitlines isBreak f keepends).map cells =
      (lineSpans keepends 0 (linePairs isBreak (text f) [])).map (fun p => ((cells f).take p.2).drop p.1) ∧
    (lineSpans keepends 0 (linePairs isBreak (text f) [])).map (fun p => ((text f).take p.2).drop p.1)
      = strSplitlines isBreak keepends (text f) := by
  have hz : List.zip (strSplitlines isBreak true (text f)) (strSplitlines isBreak false (text f))
      = (linePairs isBreak (text f) []).map fun p => (p.1 ++ p.2, p.1) := by
    simp [strSplitlines, List.zip_map']
  have hsp : (lineSpans keepends 0 (linePairs isBreak (text f) [])).map (fun p => ((text f).take p.2).drop p.1)
      = strSplitlines isBreak keepends (text f) := by
    have := spans_text (text f) keepends (linePairs isBreak (text f) []) []
      (by simp [linePairs_flatten])
    simpa [strSplitlines] using this
  unfold splitlines
  rw [hz, loop_spans, List.map_map, List.map_map]
  exact ⟨hsp ▸ List.map_congr_left fun p _ => getslice_text f p.1 p.2,
    List.map_congr_left fun p _ => getslice_cells f p.1 p.2, hsp⟩

/-- `sep.join(items)` (items already FmtStrs): Python's join on the per-character views (the statement of `C06_join`). -/
theorem C15_join (sep : FmtStr) (items : List FmtStr) :
    cells (join sep items) = pyJoin (cells sep) (items.map cells) := join_cells sep items

/-- `fmtstr(text, **dict)` is `FmtStr(Chunk(text, dict))` for ESC-free text and the attribute dict of an existing
    FmtStr: `parse_args` returns such a dict unchanged. -/
theorem C15_fmtstrAtts (md : Nat) (t : Text) (a : Atts) (h : hasEscBracket t = false) :
    fmtstrAtts md t a = .ok [⟨t, a⟩] := by
  simp [fmtstrAtts, fromStr, h, fmtstrApply, C14_parse_own_atts, copyWithNewAtts, Atts.extend]

/-- What `ljust`/`rjust` do to an original character's dict, given the shared dict `sh`. -/
def keepOf (sh a : Atts) : Atts := if sh.bg.isSome then a else a.remove [.bg]
/-- The dict of the padding, given the shared dict `sh`. -/
def padOf (sh : Atts) : Atts := if sh.bg.isSome then { bg := sh.bg } else sh

/-- What becomes of `f` itself. -/
def keepFmt (sh : Atts) (f : FmtStr) : FmtStr := if sh.bg.isSome then f else newWithAttsRemoved f [.bg]
/-- The padding: no run at all for `n = 0`. -/
def padFmt (sh : Atts) (n : Nat) : FmtStr := if (spaces n).isEmpty then [] else [⟨spaces n, padOf sh⟩]

theorem cells_keepFmt (sh : Atts) (f : FmtStr) :
    cells (keepFmt sh f) = (cells f).map fun p => (p.1, keepOf sh p.2) := by
  unfold keepFmt keepOf
  split
  · simp
  · exact C14_remove f [.bg]

theorem cells_padFmt (sh : Atts) (n : Nat) : cells (padFmt sh n) = (spaces n).map fun ch => (ch, padOf sh) := by
  unfold padFmt
  split
  · rename_i h
    rw [List.isEmpty_iff.mp h]
    rfl
  · simp [Chunk.cells]

/-- `ljust`/`rjust` without fill character in closed form: all branches of the code (shared bg or not, padding empty
    or not, `fmtstr` of the spaces) come to `keepFmt` beside `padFmt`, failing only where `shared_atts` does. -/
theorem just_none (md : Nat) (f : FmtStr) (w : Int) :
    ljust md f w none = (sharedAtts f).map (fun sh => keepFmt sh f ++ padFmt sh (w - (text f).length).toNat) ∧
    rjust md f w none = (sharedAtts f).map (fun sh => padFmt sh (w - (text f).length).toNat ++ keepFmt sh f) := by
  unfold ljust rjust
  simp only [C15_fmtstrAtts _ _ _ (hasEscBracket_spaces _)]
  cases sharedAtts f with
  | error e => exact ⟨rfl, rfl⟩
  | ok sh =>
    simp only [Except.map, keepFmt, padFmt, padOf, add]
    by_cases hb : sh.bg.isSome = true <;> by_cases he : (spaces (w - (text f).length).toNat).isEmpty = true <;>
      simp only [hb, he, Bool.false_eq_true, if_true, if_false, List.append_nil, List.nil_append, and_self]

private theorem map_ok_inv {x : Except PyErr α} {g : α → β} {r : β} (h : x.map g = .ok r) :
    ∃ a, x = .ok a ∧ r = g a := by
  cases x with
  | error e => cases h
  | ok a => exact ⟨a, rfl, (Except.ok.inj h).symm⟩

/-- `f.ljust(width)`, exactly: `f`'s characters with `keepOf sh`, then `width - len` spaces with `padOf sh`. -/
theorem C15_ljust (md : Nat) (f : FmtStr) (w : Int) (r : FmtStr) (h : ljust md f w none = .ok r) :
    ∃ sh, sharedAtts f = .ok sh ∧
      cells r = (cells f).map (fun p => (p.1, keepOf sh p.2)) ++
        (spaces (w - (text f).length).toNat).map (fun ch => (ch, padOf sh)) := by
  rw [(just_none md f w).1] at h
  obtain ⟨sh, hs, rfl⟩ := map_ok_inv h
  exact ⟨sh, hs, by rw [cells_append, cells_keepFmt, cells_padFmt]⟩

theorem C15_rjust (md : Nat) (f : FmtStr) (w : Int) (r : FmtStr) (h : rjust md f w none = .ok r) :
    ∃ sh, sharedAtts f = .ok sh ∧
      cells r = (spaces (w - (text f).length).toNat).map (fun ch => (ch, padOf sh)) ++
        (cells f).map (fun p => (p.1, keepOf sh p.2)) := by
  rw [(just_none md f w).2] at h
  obtain ⟨sh, hs, rfl⟩ := map_ok_inv h
  exact ⟨sh, hs, by rw [cells_append, cells_keepFmt, cells_padFmt]⟩

/-- `ljust` / `rjust` without fill character never fail on a FmtStr with at least one run (`FmtStr()` raises
    IndexError in `shared_atts`). -/
theorem C15_just_total (md : Nat) (f : FmtStr) (w : Int) (hne : f ≠ []) :
    (∃ r, ljust md f w none = .ok r) ∧ (∃ r, rjust md f w none = .ok r) := by
  cases f with
  | nil => exact absurd rfl hne
  | cons hd tl =>
    rw [(just_none md _ w).1, (just_none md _ w).2]
    exact ⟨⟨_, rfl⟩, ⟨_, rfl⟩⟩

private theorem le_remove_bg (sh a : Atts) (h : sh.le a) (hb : sh.bg.isSome = false) :
    sh.le (a.remove [.bg]) ∧ (a.remove [.bg]).le a := by
  have hr : ∀ k, (a.remove [.bg]).get k = if k = .bg then none else a.get k := Atts.get_erase a .bg
  simp only [Atts.le_iff, hr] at h ⊢
  refine ⟨fun k v hk => ?_, fun k v hk => ?_⟩
  · -- `sh` has no bg entry, so nothing of `sh` is erased
    have hne : k ≠ .bg := by
      rintro rfl
      have hn : sh.bg = none := Option.not_isSome_iff_eq_none.mp (by rw [hb]; decide)
      rw [Atts.get, hn] at hk
      cases hk
    rw [if_neg hne]; exact h k v hk
  · split at hk
    · cases hk
    · exact hk

/-- How the exact behaviour relates to the statement's wording: every original character keeps at least the
    shared attributes and shows only attributes it had; the padding shows only shared attributes - ALL of them
    exactly when no bg is shared; with a shared bg the padding carries that bg and nothing else. -/
theorem C15_just_bounds (f : FmtStr) (sh : Atts) (hs : sharedAtts f = .ok sh) :
    (∀ p ∈ cells f, sh.le (keepOf sh p.2) ∧ (keepOf sh p.2).le p.2) ∧ (padOf sh).le sh ∧
    (sh.bg.isSome = false → padOf sh = sh) ∧ (sh.bg.isSome = true → padOf sh = { bg := sh.bg }) := by
  have hsh := C14_shared f sh hs
  refine ⟨fun p hp => ?_, ?_, fun hb => by simp [padOf, hb], fun hb => by simp [padOf, hb]⟩
  · by_cases hb : sh.bg.isSome = true
    · simp only [keepOf, hb, if_true]; exact ⟨hsh p hp, Atts.le_refl _⟩
    · have hb' : sh.bg.isSome = false := by simpa using hb
      simp only [keepOf, hb', Bool.false_eq_true, if_false]
      exact le_remove_bg sh p.2 (hsh p hp) hb'
  · by_cases hb : sh.bg.isSome = true
    · simp only [padOf, hb, if_true]; simp [Atts.le]
    · simp only [padOf, hb]; exact Atts.le_refl _

/-- The text of `ljust` / `rjust` without fill character is `str.ljust` / `str.rjust` of the text. -/
theorem C15_just_text (md : Nat) (f : FmtStr) (w : Int) (r : FmtStr) :
    (ljust md f w none = .ok r → text r = pyLjust (text f) w ' ') ∧
    (rjust md f w none = .ok r → text r = pyRjust (text f) w ' ') := by
  constructor
  · intro h
    obtain ⟨sh, _, hc⟩ := C15_ljust md f w r h
    rw [text_eq_cells, hc, text_eq_cells]
    simp [pyLjust, spaces, List.map_map, Function.comp_def]
  · intro h
    obtain ⟨sh, _, hc⟩ := C15_rjust md f w r h
    rw [text_eq_cells, hc, text_eq_cells]
    simp [pyRjust, spaces, List.map_map, Function.comp_def]

/-- `ljust`/`rjust` with a fill character: `fmtstr(padded text, **self.shared_atts)`. -/
theorem just_some (md : Nat) (f : FmtStr) (w : Int) (c : Char) :
    ljust md f w (some c) = (sharedAtts f).bind (fmtstrAtts md (pyLjust (text f) w c)) ∧
    rjust md f w (some c) = (sharedAtts f).bind (fmtstrAtts md (pyRjust (text f) w c)) := by
  unfold ljust rjust
  cases sharedAtts f <;> exact ⟨rfl, rfl⟩

theorem fill_ok (md : Nat) (f : FmtStr) (t : Text) (r : FmtStr) (hcl : hasEscBracket t = false)
    (h : (sharedAtts f).bind (fmtstrAtts md t) = .ok r) :
    ∃ sh, sharedAtts f = .ok sh ∧ cells r = t.map (fun ch => (ch, sh)) ∧ ∀ p ∈ cells f, sh.le p.2 := by
  cases hs : sharedAtts f with
  | error e =>
    rw [hs] at h
    cases h
  | ok sh =>
    rw [hs, Except.bind, C15_fmtstrAtts _ _ _ hcl] at h
    cases h
    exact ⟨sh, rfl, by simp [Chunk.cells], C14_shared f sh hs⟩

/-- With a fill character (padded text free of `ESC [`): the padded text, every character carrying exactly the
    shared attributes, each of which every character of `f` has. -/
theorem C15_just_fill (md : Nat) (f : FmtStr) (w : Int) (c : Char) (r : FmtStr) :
    (hasEscBracket (pyLjust (text f) w c) = false → ljust md f w (some c) = .ok r → ∃ sh, sharedAtts f = .ok sh ∧
        cells r = (pyLjust (text f) w c).map (fun ch => (ch, sh)) ∧ ∀ p ∈ cells f, sh.le p.2) ∧
    (hasEscBracket (pyRjust (text f) w c) = false → rjust md f w (some c) = .ok r → ∃ sh, sharedAtts f = .ok sh ∧
        cells r = (pyRjust (text f) w c).map (fun ch => (ch, sh)) ∧ ∀ p ∈ cells f, sh.le p.2) := by
  rw [(just_some md f w c).1, (just_some md f w c).2]
  exact ⟨fill_ok md f _ r, fill_ok md f _ r⟩

/-- FULL STATEMENT of the delegation clause (text results carry exactly the shared formatting, for EVERY result
    text). -/
def C15_delegate_full_statement : Prop :=
  ∀ (md : Nat) (f : FmtStr) (m : Text → Except PyErr (StrResult Unit)) (t : Text) (sh : Atts),
    m (text f) = .ok (.str t) → sharedAtts f = .ok sh → delegate md f m = .ok (.fmt [⟨t, sh⟩])

/-- `__getattr__` delegation for an uninterpreted str method `m`: exceptions, bytes and other non-text answers pass
    through unchanged; a text answer `t` free of `ESC [` becomes the FmtStr with text `t` whose every character carries
    exactly `sharedAtts f`, each entry of which every character of `f` has; a list of texts likewise, element by element.
    PARTIAL w.r.t. `C15_delegate_full_statement` (open finding D27): a result text containing `ESC [` is re-parsed by
    `fmtstr` (`C15_delegate_witness`); the hypothesis is the complement of that footprint. -/
theorem C15_delegate_partial {β : Type} (md : Nat) (f : FmtStr) (m : Text → Except PyErr (StrResult β)) :
    (∀ e, m (text f) = .error e → delegate md f m = .error e) ∧
    (∀ b, m (text f) = .ok (.other b) → delegate md f m = .ok (.other b)) ∧
    (∀ bs, m (text f) = .ok (.bytes bs) → delegate md f m = .ok (.bytes bs)) ∧
    (∀ t sh, m (text f) = .ok (.str t) → hasEscBracket t = false → sharedAtts f = .ok sh →
      delegate md f m = .ok (.fmt [⟨t, sh⟩]) ∧ cells [⟨t, sh⟩] = t.map (fun ch => (ch, sh)) ∧
      ∀ p ∈ cells f, sh.le p.2) ∧
    (∀ ts sh, m (text f) = .ok (.list ts) → (∀ t ∈ ts, hasEscBracket t = false) → sharedAtts f = .ok sh →
      delegate md f m = .ok (.fmtList (ts.map fun t => [⟨t, sh⟩])) ∧ ∀ p ∈ cells f, sh.le p.2) := by
  refine ⟨?_, ?_, ?_, ?_, ?_⟩
  · intro e h; simp [delegate, h]
  · intro b h; simp [delegate, h]
  · intro bs h; simp [delegate, h]
  · intro t sh h hcl hs
    exact ⟨by simp [delegate, h, hs, C15_fmtstrAtts md t sh hcl], by simp [Chunk.cells], C14_shared f sh hs⟩
  · intro ts sh h hcl hs
    refine ⟨?_, C14_shared f sh hs⟩
    simp only [delegate, h, hs]
    rw [mapM_ok ts fun t ht => C15_fmtstrAtts md t sh (hcl t ht)]

/-- WITNESS for D27 (replayed on the real code by the harness): `fmtstr('a').replace('a', '\x1b[31mx\x1b[39m')` -
    the str method returns a text with an escape sequence; the re-wrapped result is the ONE character `x`, red.
    (`Generated.intMaxStrDigits`: `md` at CPython's default digit limit, 4300.) -/
theorem C15_delegate_witness :
    delegate Generated.intMaxStrDigits [⟨['a'], {}⟩]
        (fun _ => (.ok (.str [Curtsies.ESC, '[', '3', '1', 'm', 'x', Curtsies.ESC, '[', '3', '9', 'm']) :
          Except PyErr (StrResult Unit)))
      = .ok (.fmt [⟨['x'], { fg := some 1 }⟩]) := by
  decide +kernel

/-- The full statement is FALSE for the model (hence the finding D27, not a gap in the proof). -/
theorem C15_delegate_full_statement_false : ¬ C15_delegate_full_statement := by
  intro h
  have := h Generated.intMaxStrDigits [⟨['a'], {}⟩]
    (fun _ => .ok (.str [Curtsies.ESC, '[', '3', '1', 'm', 'x', Curtsies.ESC, '[', '3', '9', 'm'])) _ {} rfl (by decide)
  rw [C15_delegate_witness] at this
  revert this; decide +kernel

/-- `sh` is exactly the formatting shared by all characters of `f`: on every character, and containing every
    dict that is on every character (`C14_shared` + `C14_shared_complete`). -/
def ExactlyShared (f : FmtStr) (sh : Atts) : Prop :=
  (∀ p ∈ cells f, sh.le p.2) ∧ ∀ x : Atts, (∀ p ∈ cells f, x.le p.2) → x.le sh

/-- Delegation / fill character sharpened for a string with at least one character: the result's formatting is EXACTLY
    the formatting shared by all characters of the original (and the call cannot fail on `shared_atts`). -/
theorem C15_delegate_exact {β : Type} (md : Nat) (f : FmtStr) (hch : cells f ≠ [])
    (m : Text → Except PyErr (StrResult β)) :
    ∃ sh, ExactlyShared f sh ∧
      (∀ t, m (text f) = .ok (.str t) → hasEscBracket t = false → delegate md f m = .ok (.fmt [⟨t, sh⟩])) ∧
      (∀ ts, m (text f) = .ok (.list ts) → (∀ t ∈ ts, hasEscBracket t = false) →
        delegate md f m = .ok (.fmtList (ts.map fun t => [⟨t, sh⟩]))) := by
  obtain ⟨sh, hs, h1, h2⟩ := C14_shared_complete f hch
  obtain ⟨_, _, _, d3, d4⟩ := C15_delegate_partial md f m
  exact ⟨sh, ⟨h1, h2⟩, fun t ht hc => (d3 t sh ht hc hs).1, fun ts ht hc => (d4 ts sh ht hc hs).1⟩

theorem C15_just_fill_exact (md : Nat) (f : FmtStr) (hch : cells f ≠ []) (w : Int) (c : Char)
    (hl : hasEscBracket (pyLjust (text f) w c) = false) (hr : hasEscBracket (pyRjust (text f) w c) = false) :
    ∃ sh, ExactlyShared f sh ∧
      ljust md f w (some c) = .ok [⟨pyLjust (text f) w c, sh⟩] ∧
      rjust md f w (some c) = .ok [⟨pyRjust (text f) w c, sh⟩] := by
  obtain ⟨sh, hs, h1, h2⟩ := C14_shared_complete f hch
  exact ⟨sh, ⟨h1, h2⟩, by simp [ljust, hs, C15_fmtstrAtts _ _ _ hl], by simp [rjust, hs, C15_fmtstrAtts _ _ _ hr]⟩

/-- Non-vacuity: `on_blue(underline('ab')).ljust(4)` is padded with non-underlined blue; split and splitlines on a
    two-run string. -/
example : ljust 4300 [⟨['a', 'b'], { bg := some 4, underline := some true }⟩] 4 none
    = .ok [⟨['a', 'b'], { bg := some 4, underline := some true }⟩, ⟨[' ', ' '], { bg := some 4 }⟩] := by decide
example : (splitSpans [⟨['a', ','], { fg := some 1 }⟩, ⟨['b'], {}⟩] (findSpans [','] ['a', ',', 'b'])).map cells
    = [[('a', { fg := some 1 })], [('b', {})]] := by decide
example : (splitlines (fun c => c = '\n') [⟨['a', '\n'], { fg := some 1 }⟩, ⟨['b'], {}⟩] true).map cells
    = [[('a', { fg := some 1 }), ('\n', { fg := some 1 })], [('b', {})]] := by decide

end Curtsies
