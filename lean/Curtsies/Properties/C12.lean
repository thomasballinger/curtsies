/-
  C12 - Leaving any curtsies context restores terminal, tty and signal state.

  Model: Model/Contexts.lean (abstract POSIX/terminal state; tty attributes opaque, `cbreak`/`noStartStop`/`nonblock`
  uninterpreted).  Every theorem is for ALL `TtyOps`, both threads, every context (every flag combination), every
  initial world and every body tree (operations, nested contexts to any depth, truncated by `raise` anywhere).

  PARTIAL BY NATURE (see the model header): the POSIX behaviour is specified, not proved; exceptions happen at
  operation boundaries, at the blocked select and after the read - not between two bytecodes of an __enter__.

  Known finding D18: `threadsafe_event_trigger` opens a pipe nobody closes.  `C12_full_statement` (all bodies) is
  therefore false (`C12_D18_witness`); `C12_restore_partial` carries the complementary hypothesis `NoLeak body`
  (no `mkThreadsafeTrigger` anywhere in the body).
  Known finding D36: `render_to_terminal` of a window with hide_cursor=False writes hide_cursor first and
  normal_cursor last; an exception at a write in between leaves the cursor hidden and `__exit__` only shows it
  `if self.hide_cursor`.  `C12_D36_witness`; `C12_restore_partial` carries the exact complement `CrashOk`.
  Known finding D26: a FullscreenWindow entered and left INSIDE another one switches the terminal back to the main
  screen while the outer window is still active (ESC[?1049l does not nest), so later renders land on the main
  screen.  `C12_main_screen_full_statement` is false (`C12_D26_witness`); `C12_main_screen_partial` carries the
  hypothesis `NoScreenSwitch body` (no FullscreenWindow nested in the body: this excludes the footprint).  All other
  clauses (`C12_restore_partial`, `C12_alt_left`, `C12_cursor_visible`) hold for nested FullscreenWindows too.
-/
import Curtsies.Model.Contexts
namespace Curtsies
open Curtsies.Contexts

/-- "restores what entering changed", clause by clause -/
structure Restored (w w' : World A) : Prop where
  tty : w'.tty = w.tty
  fl : w'.fl = w.fl
  sigint : w'.sigint = w.sigint
  wakeup : w'.wakeup = w.wakeup
  fds : w'.fds = w.fds
  cursor : w.cursorVisible = true → w'.cursorVisible = true
  alt : w.alt = false → w'.alt = false

/-- no `threadsafe_event_trigger` call anywhere in the body (complement of D18's footprint) -/
def NoLeak : Body A → Prop
  | .done => True
  | .raise => True
  | .op o rest => o ≠ .mkThreadsafeTrigger ∧ NoLeak rest
  | .nest _ inner rest => NoLeak inner ∧ NoLeak rest

/-- a render cut short by a failing write is harmless when the failing write is the first one (nothing was written)
    or when the innermost window hides the cursor itself (its `__exit__` shows it again) -/
def crashOkOp (stack : List (Ctx A × Saved A)) : Op → Prop
  | .renderCrash k => k = 0 ∨ innerWindowHide stack ≠ some false
  | _ => True

/-- EXACT complement of D36's footprint: no render of a window with hide_cursor=False is cut short at a write after
    the first one.  (Allowed: failing writes in hide_cursor=True windows, at the first write, with no window in scope.) -/
def CrashOk : List (Ctx A × Saved A) → Body A → Prop
  | _, .done => True
  | _, .raise => True
  | st, .op o rest => crashOkOp st o ∧ CrashOk st rest
  | st, .nest c inner rest => (∀ sv, CrashOk ((c, sv) :: st) inner) ∧ CrashOk st rest

def isEnvOp : Op → Bool
  | .envTty _ => true | .envFl _ => true | .envSigint _ => true | _ => false

/-- nobody else changes the tty attributes, status flags or SIGINT handler while the context is active (environment
    steps are meant for the gap BETWEEN two uses of a context manager: `C12_reuse`) -/
def NoEnv : Body A → Prop
  | .done => True
  | .raise => True
  | .op o rest => isEnvOp o = false ∧ NoEnv rest
  | .nest _ inner rest => NoEnv inner ∧ NoEnv rest

theorem Restored.refl (w : World A) : Restored w w := ⟨rfl, rfl, rfl, rfl, rfl, id, id⟩

theorem Restored.trans {a b c : World A} (h1 : Restored a b) (h2 : Restored b c) : Restored a c :=
  ⟨h2.tty.trans h1.tty, h2.fl.trans h1.fl, h2.sigint.trans h1.sigint, h2.wakeup.trans h1.wakeup,
   h2.fds.trans h1.fds, fun h => h2.cursor (h1.cursor h), fun h => h2.alt (h1.alt h)⟩

/-- A request - returned or raised, with or without a read, interrupted or not - leaves the whole OS state as it
    found it: in particular the stream is never left in non-blocking mode and the SIGINT handler swapped in by
    ReplacedSigIntHandler is swapped back. -/
theorem C12_request_restores (T : TtyOps A) (main : Bool) (cfg : InputCfg) (id : Nat) (o : ReqOutcome) (w : World A) :
    (request T main cfg id o w).1 = w := by
  unfold request
  cases o <;> cases (cfg.sigintEvent && main) <;> rfl

/-- Between requests an Input never leaves its stream in non-blocking mode (status flags after = before). -/
theorem C12_blocking (T : TtyOps A) (main : Bool) (cfg : InputCfg) (id : Nat) (o : ReqOutcome) (w : World A) :
    (request T main cfg id o w).1.fl = w.fl := by
  rw [C12_request_restores]

private theorem write_restored (w : World A) : Restored w (write w) := by
  unfold write
  split
  · exact Restored.refl w
  · exact ⟨rfl, rfl, rfl, rfl, rfl, id, id⟩

private theorem doOp_restored (T : TtyOps A) (main : Bool) (stack : List (Ctx A × Saved A)) (o : Op) (w : World A)
    (hl : o ≠ .mkThreadsafeTrigger) (he : isEnvOp o = false) (hc : crashOkOp stack o) :
    Restored w (doOp T main stack o w).1 := by
  cases o with
  | request out =>
    simp only [doOp]
    split
    · rw [C12_request_restores]
      exact Restored.refl w
    · exact Restored.refl w
  | render =>
    have hw := write_restored w
    simp only [doOp]
    split
    · exact hw
    · exact ⟨hw.tty, hw.fl, hw.sigint, hw.wakeup, hw.fds, fun _ => rfl, hw.alt⟩
    · exact Restored.refl w
  | renderCrash k =>
    simp only [doOp]
    split
    · show Restored w (if k = 0 then w else write w)
      split
      · exact Restored.refl w
      · exact write_restored w
    · next hw =>
      -- hide_cursor=False: by `hc` the failing write is the first one, and nothing was written
      rcases hc with rfl | hk
      · exact Restored.refl w
      · exact absurd hw hk
    · exact Restored.refl w
  | mkThreadsafeTrigger => exact absurd rfl hl
  | envTty _ | envFl _ | envSigint _ => exact absurd he (by simp [isEnvOp])
  | mkTrigger | envSize _ => exact Restored.refl w

/-- field by field: `__exit__` writes back what `__enter__` saved, or `__enter__` did not touch it -/
private theorem enter_exit_restored (T : TtyOps A) (main : Bool) (c : Ctx A) (w w2 : World A)
    (h : Restored (enter T main c w).2 w2) : Restored w (exit main c (enter T main c w).1 w2) := by
  cases c with
  | input cfg =>
    obtain ⟨se, _⟩ := cfg
    cases main
    · cases se <;> exact ⟨rfl, h.fl, h.sigint, h.wakeup, h.fds, h.cursor, h.alt⟩
    · -- the two descriptors of the wake-up pipe are the ones `__exit__` closes
      have hf : ((w2.fds.erase w.nextFd).erase (w.nextFd + 1)) = w.fds := by
        have : w2.fds = w.nextFd :: (w.nextFd + 1) :: w.fds := by cases se <;> exact h.fds
        rw [this, List.erase_cons_head, List.erase_cons_head]
      cases se
      · exact ⟨rfl, h.fl, h.sigint, rfl, hf, h.cursor, h.alt⟩
      · exact ⟨rfl, h.fl, rfl, rfl, hf, h.cursor, h.alt⟩
  | fullscreen hide =>
    cases hide
    · exact ⟨h.tty, h.fl, h.sigint, h.wakeup, h.fds, h.cursor, fun _ => rfl⟩
    · exact ⟨h.tty, h.fl, h.sigint, h.wakeup, h.fds, fun _ => rfl, fun _ => rfl⟩
  | cursorAware hide keep =>
    have hw := h.trans (write_restored w2)
    cases hide
    · exact ⟨rfl, hw.fl, hw.sigint, hw.wakeup, hw.fds, hw.cursor, hw.alt⟩
    · exact ⟨rfl, hw.fl, hw.sigint, hw.wakeup, hw.fds, fun _ => rfl, hw.alt⟩
  | cbreak | termmode _ => exact ⟨rfl, h.fl, h.sigint, h.wakeup, h.fds, h.cursor, h.alt⟩
  | nonblocking => exact ⟨h.tty, rfl, h.sigint, h.wakeup, h.fds, h.cursor, h.alt⟩

theorem run_restored (T : TtyOps A) (main : Bool) (body : Body A) :
    ∀ (stack : List (Ctx A × Saved A)) (w : World A), NoLeak body → NoEnv body → CrashOk stack body →
      Restored w (run T main body stack w).2.1 := by
  induction body with
  | done | raise => exact fun _ w _ _ _ => Restored.refl w
  | op o rest ih =>
    intro stack w hn he hc
    have hop := doOp_restored T main stack o w hn.1 he.1 hc.1
    simp only [run]
    split
    · exact hop
    · exact hop.trans (ih stack _ hn.2 he.2 hc.2)
  | nest c inner rest ih1 ih2 =>
    intro stack w hn he hc
    have hin := ih1 ((c, (enter T main c w).1) :: stack) (enter T main c w).2 hn.1 he.1 (hc.1 _)
    have hx := enter_exit_restored T main c w _ hin
    simp only [run]
    split
    · exact hx
    · exact hx.trans (ih2 stack _ hn.2 he.2 hc.2)

/-- The property at full strength: `with c: body` restores, for every body in which nobody else changes the terminal
    while the context is active (`NoEnv`).  FALSE because of D18 and D36 - and only because of them:
    `C12_restore_partial` proves it under the exact complements of the two footprints. -/
def C12_full_statement : Prop :=
  ∀ (A : Type) (T : TtyOps A) (main : Bool) (c : Ctx A) (body : Body A) (w : World A), NoEnv body →
    Restored w (withCtx T main c body w).2.1

/-- Leaving the context of an Input, FullscreenWindow, CursorAwareWindow, Cbreak, Nonblocking or Termmode - normally
    or through an exception raised at any point of the body - restores tty attributes, status flags, SIGINT handler,
    wake-up descriptor and the set of open descriptors, leaves a visible cursor visible and does not leave the
    alternate screen active.  Hypotheses: the exact complements of the footprints of D18 (`NoLeak`: no thread-safe
    trigger is created) and D36 (`CrashOk`: no render of a hide_cursor=False window is cut short after its first
    write), plus `NoEnv`. -/
theorem C12_restore_partial (T : TtyOps A) (main : Bool) (c : Ctx A) (body : Body A) (w : World A)
    (h : NoLeak body) (he : NoEnv body) (hc : ∀ sv, CrashOk [(c, sv)] body) :
    Restored w (withCtx T main c body w).2.1 := by
  unfold withCtx
  exact run_restored T main (.nest c body .done) [] w ⟨h, trivial⟩ ⟨he, trivial⟩ ⟨hc, trivial⟩

/-- Re-using ONE context-manager object: use it (`b1`), let the environment change the terminal / flags / handler
    (`e`, any operation - typically `envTty`, `envFl`, `envSigint`), use the same object again (`b2`).  The second
    exit restores the world of the SECOND entry (after the environment's change), not the one captured at the first
    entry; the first exit restored the world of the first entry. -/
theorem C12_reuse (T : TtyOps A) (main : Bool) (c : Ctx A) (b1 b2 : Body A) (e : Op) (w : World A)
    (h1 : NoLeak b1) (e1 : NoEnv b1) (c1 : ∀ sv, CrashOk [(c, sv)] b1) (h2 : NoLeak b2) (e2 : NoEnv b2)
    (c2 : ∀ sv, CrashOk [(c, sv)] b2)
    (hr : (withCtx T main c b1 w).2.2 = false)
    (he : (doOp T main [] e (withCtx T main c b1 w).2.1).2 = false) :
    let w1 := (withCtx T main c b1 w).2.1
    let w2 := (doOp T main [] e w1).1
    (run T main (.nest c b1 (.op e (.nest c b2 .done))) [] w).2.1 = (withCtx T main c b2 w2).2.1 ∧
      Restored w w1 ∧ Restored w2 (withCtx T main c b2 w2).2.1 := by
  refine ⟨?_, C12_restore_partial T main c b1 w h1 e1 c1, C12_restore_partial T main c b2 _ h2 e2 c2⟩
  -- both sides unfold to `if`s on whether `b1` and `e` raised; `hr` and `he` decide them
  unfold withCtx at hr he ⊢
  simp only [run] at hr he ⊢
  split at hr
  · cases hr
  · next hk =>
    simp only [hk, Bool.false_eq_true, if_false] at he ⊢
    simp only [he, Bool.false_eq_true, if_false]

/-- "the cursor is visible again": whatever the state before and whatever the body did, after leaving a window
    created with hide_cursor=True the cursor is visible. -/
theorem C12_cursor_visible (main : Bool) (sv : Saved A) (w : World A) (keep : Bool) :
    (exit main (.fullscreen true) sv w).cursorVisible = true ∧
    (exit main (.cursorAware true keep) sv w).cursorVisible = true := by
  simp [exit]

/-- "the alternate screen has been left": after leaving a FullscreenWindow the main screen is active. -/
theorem C12_alt_left (main : Bool) (hide : Bool) (sv : Saved A) (w : World A) :
    (exit main (.fullscreen hide) sv w).alt = false := by
  cases hide <;> simp [exit]

/-- no FullscreenWindow nested anywhere inside the body (its exit is D26's switch).  Wider than D26's footprint: a
    nested one that no write follows is harmless. -/
def NoScreenSwitch : Body A → Prop
  | .done => True
  | .raise => True
  | .op _ rest => NoScreenSwitch rest
  | .nest c inner rest => (match c with | .fullscreen _ => False | _ => True) ∧ NoScreenSwitch inner ∧ NoScreenSwitch rest

private theorem write_alt {w : World A} (ha : w.alt = true) : write w = w :=
  if_pos ha

private theorem doOp_alt (T : TtyOps A) (main : Bool) (stack : List (Ctx A × Saved A)) (o : Op) (w : World A)
    (ha : w.alt = true) :
    (doOp T main stack o w).1.alt = true ∧ (doOp T main stack o w).1.mainScreen = w.mainScreen := by
  have hw := write_alt ha
  cases o with
  | request out =>
    simp only [doOp]
    split
    · rw [C12_request_restores]
      exact ⟨ha, rfl⟩
    · exact ⟨ha, rfl⟩
  | render =>
    -- a write changes nothing (`hw`), so the result is `w` up to `cursorVisible`
    simp only [doOp, hw]
    split <;> exact ⟨ha, rfl⟩
  | renderCrash k =>
    simp only [doOp, hw, ite_self]
    split
    · exact ⟨ha, rfl⟩
    · split <;> exact ⟨ha, rfl⟩  -- hide_cursor=False: whether the failing write is the first one
    · exact ⟨ha, rfl⟩
  | mkThreadsafeTrigger =>
    simp only [doOp]
    split <;> exact ⟨ha, rfl⟩
  | mkTrigger | envTty _ | envFl _ | envSigint _ | envSize _ => exact ⟨ha, rfl⟩

private theorem enter_alt (T : TtyOps A) (main : Bool) (c : Ctx A) (w : World A)
    (hc : match c with | .fullscreen _ => False | _ => True) :
    (enter T main c w).2.alt = w.alt ∧ (enter T main c w).2.mainScreen = w.mainScreen := by
  cases c with
  | fullscreen _ => exact hc.elim
  | input cfg =>
    obtain ⟨se, _⟩ := cfg
    cases main <;> cases se <;> exact ⟨rfl, rfl⟩
  | cursorAware hide _ => cases hide <;> exact ⟨rfl, rfl⟩
  | cbreak | nonblocking | termmode _ => exact ⟨rfl, rfl⟩

private theorem exit_alt (main : Bool) (c : Ctx A) (sv : Saved A) (w : World A)
    (hc : match c with | .fullscreen _ => False | _ => True) (ha : w.alt = true) :
    (exit main c sv w).alt = true ∧ (exit main c sv w).mainScreen = w.mainScreen := by
  cases c with
  | fullscreen _ => exact hc.elim
  | input cfg =>
    obtain ⟨se, _⟩ := cfg
    obtain ⟨_, _, _, _, pipe, _⟩ := sv
    -- `exit` tests `main`, `sigint_event` and the saved pipe; no branch sets either field
    cases main <;> cases se <;> rcases pipe with _ | ⟨r, wr⟩
    all_goals exact ⟨ha, rfl⟩
  | cursorAware hide _ =>
    simp only [exit, write_alt ha]
    split <;> exact ⟨ha, rfl⟩
  | cbreak | nonblocking | termmode _ => exact ⟨ha, rfl⟩

/-- the invariant behind the main-screen clause: while the alternate screen is active no write lands on the main
    screen, and only the `__exit__` of a FullscreenWindow leaves it -/
private theorem run_alt (T : TtyOps A) (main : Bool) (body : Body A) :
    ∀ (stack : List (Ctx A × Saved A)) (w : World A), NoScreenSwitch body → w.alt = true →
      (run T main body stack w).2.1.alt = true ∧ (run T main body stack w).2.1.mainScreen = w.mainScreen := by
  induction body with
  | done | raise => exact fun _ _ _ ha => ⟨ha, rfl⟩
  | op o rest ih =>
    intro stack w hn ha
    have hop := doOp_alt T main stack o w ha
    simp only [run]
    split
    · exact hop
    · have hrest := ih stack _ hn hop.1
      exact ⟨hrest.1, hrest.2.trans hop.2⟩
  | nest c inner rest ih1 ih2 =>
    intro stack w hn ha
    obtain ⟨hc, hi, hr⟩ := hn
    have he := enter_alt T main c w hc
    have hin := ih1 ((c, (enter T main c w).1) :: stack) _ hi (he.1.trans ha)
    have hx := exit_alt main c (enter T main c w).1 _ hc hin.1
    have hms := hx.2.trans (hin.2.trans he.2)
    simp only [run]
    split
    · exact ⟨hx.1, hms⟩
    · have hrest := ih2 stack _ hr hx.1
      exact ⟨hrest.1, hrest.2.trans hms⟩

/-- full statement of the main-screen clause: FALSE for nested FullscreenWindows (D26, `C12_D26_witness`) -/
def C12_main_screen_full_statement : Prop :=
  ∀ (A : Type) (T : TtyOps A) (main : Bool) (hide : Bool) (body : Body A) (w : World A), w.alt = false →
    (withCtx T main (.fullscreen hide) body w).2.1.mainScreen = w.mainScreen

/-- "... with the main screen's content untouched": nothing the body of a FullscreenWindow does (renders of any
    window, requests, nested Inputs/Cbreak/..., exceptions) writes to the main screen, provided no FullscreenWindow
    is entered inside it. -/
theorem C12_main_screen_partial (T : TtyOps A) (main : Bool) (hide : Bool) (body : Body A) (w : World A)
    (h : NoScreenSwitch body) :
    (withCtx T main (.fullscreen hide) body w).2.1.mainScreen = w.mainScreen := by
  have he : (enter T main (.fullscreen hide) w).2.alt = true ∧
      (enter T main (.fullscreen hide) w).2.mainScreen = w.mainScreen := by
    cases hide <;> exact ⟨rfl, rfl⟩
  have hb := run_alt T main body [(.fullscreen hide, (enter T main (.fullscreen hide) w).1)] _ h he.1
  have hx (sv : Saved A) (w' : World A) : (exit main (.fullscreen hide) sv w').mainScreen = w'.mainScreen := by
    cases hide <;> rfl
  unfold withCtx
  simp only [run]
  split <;> rw [hx, hb.2, he.2]

def unitOps : TtyOps Unit := { cbreak := id, noStartStop := id, nonblock := id, envTty := fun _ => id, envFl := fun _ => id }
def w0 : World Unit :=
  { tty := (), fl := 2, sigint := .dflt, wakeup := none, fds := [], nextFd := 3, nextId := 0,
    cursorVisible := true, alt := false, mainScreen := 0 }

/-- D18 on the model: `with Input() as i: i.threadsafe_event_trigger(E)` leaves two descriptors open.
    (replayed on the real code by harness/props/c12.py: script `(I00 T )`) -/
theorem C12_D18_witness :
    (withCtx unitOps true (.input ⟨false, false⟩) (.op .mkThreadsafeTrigger .done) w0).2.1.fds = [5, 6] ∧
    ¬ C12_full_statement := by
  refine ⟨by decide, fun h => ?_⟩
  have := (h Unit unitOps true (.input ⟨false, false⟩) (.op .mkThreadsafeTrigger .done) w0 (by simp [NoEnv, isEnvOp])).fds
  exact absurd this (by decide)

/-- D36 on the model: `with FullscreenWindow(hide_cursor=False) as w: w.render_to_terminal(...)` where the second
    write of the render raises: hide_cursor was written, normal_cursor never is, and `__exit__` does not show the
    cursor - it stays hidden. (script `(F0 R1 )`) -/
theorem C12_D36_witness :
    (withCtx unitOps true (.fullscreen false) (.op (.renderCrash 1) .done) w0).2.1.cursorVisible = false ∧
    ¬ C12_full_statement := by
  refine ⟨by decide, fun h => ?_⟩
  have := (h Unit unitOps true (.fullscreen false) (.op (.renderCrash 1) .done) w0 (by simp [NoEnv, isEnvOp])).cursor rfl
  exact absurd this (by decide)

/-- D26 on the model, nested FullscreenWindows: the outer window's render after the inner one was left lands on the
    main screen. (script `(F1 (F1 ) r )`) -/
theorem C12_D26_witness : ¬ C12_main_screen_full_statement := by
  intro h
  have := h Unit unitOps true true (.nest (.fullscreen true) .done (.op .render .done)) w0 rfl
  exact absurd this (by decide)

/-- Non-vacuity of `C12_restore_partial`: a nested, exception-truncated body without thread-safe triggers. -/
example : NoLeak (A := Unit) (.op (.request .returnsAfterRead)
    (.nest (.fullscreen true) (.op .render (.op (.request .keyboardInterrupt) .raise)) .done)) := by
  simp [NoLeak]

/-- Non-vacuity of `C12_reuse`: one Input used twice, ECHO toggled by somebody else in between; neither use raises. -/
example : (withCtx unitOps true (.input ⟨true, false⟩) (.op (.request .returnsAfterRead) .done) w0).2.2 = false ∧
    (doOp unitOps true [] (.envTty 0)
      (withCtx unitOps true (.input ⟨true, false⟩) (.op (.request .returnsAfterRead) .done) w0).2.1).2 = false := by
  decide

/-- Non-vacuity of `CrashOk`: failing writes that the theorem COVERS - in a hide_cursor=True window at any write, and
    at the first write of a hide_cursor=False window. -/
example : (∀ sv, CrashOk (A := Unit) [(.fullscreen true, sv)] (.op (.renderCrash 3) .done)) ∧
    (∀ sv, CrashOk (A := Unit) [(.cursorAware false true, sv)] (.op (.renderCrash 0) .done)) := by
  constructor <;> intro sv <;> simp [CrashOk, crashOkOp, innerWindowHide]

end Curtsies
