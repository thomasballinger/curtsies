/-
  C03 - Key decoding splits any byte stream losslessly into correctly named keys.

  Model: `getKey` (events.get_key), `findKey` (the find_key loop of Input._send: pop one byte, full = nothing
  left), `segment` (find_key repeated over a buffer) in Model/Keys.lean; strict UTF-8 in Spec/Utf8.lean.
  Every theorem is stated for ARBITRARY tables `T` satisfying the decidable side conditions `T.WF`
  (Proofs/KeysLoop.lean); `genTables_wf` proves those for the tables regenerated from /repo on every run
  (kernel evaluation), so editing a table re-opens the obligations.

  Hypotheses and readings, all visible in the statements:
  * bytes are `Nat`; `Recognised` (Proofs/KeysLoop.lean) is "input made of recognised sequences and validly encoded
    characters" at byte level, `C03_units_recognised` links it to concatenations of units;
  * `metaCollision`: under utf-8 a one-byte 8-bit Meta key that is a UTF-8 lead byte (RFC 3629: C2..F4) with more
    bytes buffered is not "recognised" (property text: such keys count only when they end a read); all other
    one-byte keys are recognised anywhere - for C0, C1, F5..FD the code disagrees: known finding D43
    (`d43Collision`, `runNoD43`, `C03_D43_witness`), whose complement the theorems carry as a hypothesis;
  * "reports every character as itself" is claimed for characters whose encoding is not a table key (`C03_chars`);
    the others are reported under their table name (`C03_chars_table_key`);
  * after a key that is itself a KEYMAP_PREFIXES member (ESC, ESC ESC, ESC O, ESC [) has merged with what follows
    - which the text licenses - nothing is claimed about the table sequence that followed it (`C03_table`, third
    conjunct: the result only contains `u` and at least one more byte);
  * `C03_never_fails_partial` excludes exactly the footprints of known findings D12 and D43; the full statement is
    refuted at a point of each footprint by `C03_D12_witness` / `C03_D43_witness`;
  * the lossless theorems speak about calls that return (`.ok`): they are conditional on the decoder not raising.
-/
import Curtsies.Model.KeysGen
import Curtsies.Proofs.KeysLoop
import Curtsies.Proofs.KeysGenCore
namespace Curtsies
open Spec.Utf8

theorem genTables_wf : genTables.WF where
  prefix_closed := genTables_core.prefix_closed
  prefix_sound := genTables_core.prefix_sound
  multibyte_ascii := by decide +kernel
  bytes := by decide +kernel
  max_size := genTables_core.max_size
  max_attained := by decide +kernel
  fits_utf8 := by decide +kernel
  subset := genTables_core.subset
  curtsies_lookup := genTables_core.curtsies_lookup
  esc_is_key := by decide +kernel

theorem C03_lossless (T : KeyTables) (enc : Enc) (mode : KeyMode) (buf : List Nat) (k : KeyVal)
    (consumed rest : List Nat) (h : findKey T enc mode buf = .ok (some (k, consumed, rest))) :
    consumed ++ rest = buf ∧ consumed ≠ [] := by
  obtain ⟨h1, ⟨m, hm, hc⟩, _⟩ := findKeyLoop_ok h
  refine ⟨by simpa using h1, ?_⟩
  rw [hc]
  simpa using hm

theorem C03_lossless_none (T : KeyTables) (enc : Enc) (mode : KeyMode) (buf : List Nat)
    (h : findKey T enc mode buf = .ok none) : buf = [] :=
  (findKeyLoop_ok h).2

/-- A whole run: the consumed pieces, in order, concatenate to the stream (no byte lost, duplicated or
    reordered), each at least one byte. All bytes, encodings, modes, tables. -/
theorem C03_lossless_stream (T : KeyTables) (enc : Enc) (mode : KeyMode) (n : Nat) (buf : List Nat)
    (ps : List (KeyVal × List Nat)) (h : segment T enc mode n buf = .ok ps) :
    (ps.map (·.2)).flatten = buf ∧ ∀ p ∈ ps, p.2 ≠ [] := by
  fun_induction segment T enc mode n buf generalizing ps with
  | case1 =>
    cases h
    exact ⟨rfl, fun _ hp => nomatch hp⟩
  | case2 => cases h
  | case3 => cases h
  | case4 n b bs hf => exact absurd (C03_lossless_none T enc mode _ hf) (List.cons_ne_nil _ _)
  | case5 => cases h
  | case6 n b bs k c r hf ps' hs ih =>
    cases h
    obtain ⟨h1, h2⟩ := C03_lossless T enc mode _ k c r hf
    obtain ⟨i1, i2⟩ := ih ps' hs
    exact ⟨by rw [List.map_cons, List.flatten_cons, i1, h1], List.forall_mem_cons.mpr ⟨h2, i2⟩⟩

/-- In bytes mode the key IS the consumed bytes (so the keys of a run concatenate to the stream). -/
theorem C03_lossless_bytes (T : KeyTables) (enc : Enc) (buf : List Nat) (k : KeyVal) (consumed rest : List Nat)
    (h : findKey T enc .bytes buf = .ok (some (k, consumed, rest))) : k = .bytes consumed := by
  obtain ⟨full, hg⟩ := (findKeyLoop_ok h).2.2
  exact getKey_bytes hg

/-- The one configuration the property sets aside "by design": under utf-8, a one-byte 8-bit key that is also a
    UTF-8 lead byte (RFC 3629: C2..F4), with more bytes buffered behind it. -/
def metaCollision (enc : Enc) (u rest : List Nat) : Prop :=
  enc = .utf8 ∧ rest ≠ [] ∧ ∃ b, u = [b] ∧ 0xC2 ≤ b ∧ b ≤ 0xF4

/-- Footprint of known finding D43 (`isD43Byte`, `C03_D43_witness`): under utf-8, one of the one-byte keys C0, C1,
    F5..FD with more bytes buffered behind it. These are NOT UTF-8 lead bytes, so the property's parenthesis does not
    cover them; the code treats them as such. -/
def d43Collision (enc : Enc) (u rest : List Nat) : Prop :=
  enc = .utf8 ∧ rest ≠ [] ∧ ∃ b, u = [b] ∧ isD43Byte b

/-- For every entry `u` of either table, every continuation `rest`, encoding and naming mode:
    every proper prefix of `u` makes the decoder wait; then
    - if `u` ends the buffer or is not a KEYMAP_PREFIXES member: `find_key` returns `u` as ONE keypress under its
      table name (`tableName`), `rest` untouched;
    - if `u` is a KEYMAP_PREFIXES member and more bytes are buffered: the decoder keeps reading, and whatever it
      returns consumed `u` and at least one more byte (never broken up). -/
theorem C03_table (T : KeyTables) (hT : T.WF) (u : List Nat) (hu : T.isKey u = true) (enc : Enc)
    (mode : KeyMode) (rest : List Nat) (hc : ¬ metaCollision enc u rest) (hd : ¬ d43Collision enc u rest) :
    (∀ i, 1 ≤ i → i < u.length → getKey T (u.take i) enc mode false = .ok none) ∧
    ((rest = [] ∨ u ∉ T.prefixes) →
      ∃ k, findKey T enc mode (u ++ rest) = .ok (some (k, u, rest)) ∧ tableName T u enc mode k) ∧
    ((rest ≠ [] ∧ u ∈ T.prefixes) →
      findKey T enc mode (u ++ rest) = findKeyLoop T enc mode u rest ∧
      ∀ k c r, findKey T enc mode (u ++ rest) = .ok (some (k, c, r)) → ∃ m, m ≠ [] ∧ c = u ++ m) := by
  have hwait := getKey_isKey_prefix hT.core hu enc mode
  refine ⟨hwait, ?_, ?_⟩
  · intro h
    refine findKey_isKey hT hu enc mode rest ?_
    by_cases hr : rest = []
    · exact .inl hr
    · exact .inr ⟨h.resolve_left hr, unfinished_isKey hT hu enc fun he b hb =>
        ⟨fun h => hc ⟨he, hr, b, hb, h⟩, fun h => hd ⟨he, hr, b, hb, h⟩⟩⟩
  · rintro ⟨hr, hp⟩
    have e : findKey T enc mode (u ++ rest) = findKeyLoop T enc mode u rest := by
      apply findKeyLoop_skip enc mode u [] rest hr
      intro i h1 h2
      by_cases h3 : i < u.length
      · exact hwait i h1 h3
      · rw [List.take_of_length_le (by omega)]
        exact getKey_prefix_core hT.core hp enc mode
    refine ⟨e, ?_⟩
    intro k c r h
    rw [e] at h
    exact (findKeyLoop_ok h).2.1

theorem C03_table_generated (u : List Nat) (hu : genTables.isKey u = true) (enc : Enc) (mode : KeyMode)
    (rest : List Nat) (hc : ¬ metaCollision enc u rest) (hd : ¬ d43Collision enc u rest) :
    (∀ i, 1 ≤ i → i < u.length → getKey genTables (u.take i) enc mode false = .ok none) ∧
    ((rest = [] ∨ u ∉ genTables.prefixes) →
      ∃ k, findKey genTables enc mode (u ++ rest) = .ok (some (k, u, rest)) ∧ tableName genTables u enc mode k) ∧
    ((rest ≠ [] ∧ u ∈ genTables.prefixes) →
      findKey genTables enc mode (u ++ rest) = findKeyLoop genTables enc mode u rest ∧
      ∀ k c r, findKey genTables enc mode (u ++ rest) = .ok (some (k, c, r)) → ∃ m, m ≠ [] ∧ c = u ++ m) :=
  C03_table genTables genTables_wf u hu enc mode rest hc hd

/-- Non-vacuity: F5 (`ESC [ 1 5 ~`) followed by `a`, and ESC (a KEYMAP_PREFIXES member) alone. -/
example : findKey genTables .utf8 .curtsies ([27, 91, 49, 53, 126] ++ [97]) =
    .ok (some (.text (cpsOf "<F5>"), [27, 91, 49, 53, 126], [97])) := by decide +kernel
example : findKey genTables .utf8 .curses [27] = .ok (some (.text (cpsOf "\x1b"), [27], [])) := by decide +kernel

/-- `chr(c).encode(encoding)`: the bytes of character `c`, when the encoding has it -/
def charBytes : Enc → Nat → Option (List Nat)
  | .utf8, c => if isScalar c then some (encode c) else none
  | .latin1, c => if c < 256 then some [c] else none
  | .ascii, c => if c < 128 then some [c] else none

theorem charBytes_some {enc : Enc} {c : Nat} {bs : List Nat} (h : charBytes enc c = some bs) :
    (enc = .utf8 ∧ isScalar c ∧ bs = encode c) ∨ (bs = [c] ∧ decode enc [c] = some [c]) := by
  cases enc with
  | utf8 =>
    obtain ⟨hs, h⟩ := Option.ite_none_right_eq_some.mp h
    cases h
    exact .inl ⟨rfl, hs, rfl⟩
  | ascii =>
    obtain ⟨hc, h⟩ := Option.ite_none_right_eq_some.mp h
    cases h
    exact .inr ⟨rfl, by simp [decode, decodeAscii, hc]⟩
  | latin1 =>
    obtain ⟨hc, h⟩ := Option.ite_none_right_eq_some.mp h
    cases h
    exact .inr ⟨rfl, by simp [decode, decodeLatin1, hc]⟩

/-- Every Unicode scalar value whose encoding is not itself a table key (utf-8: all 1 112 064 scalar values,
    strict validity; latin-1: c < 256; ascii: c < 128), followed by ANY bytes `rest`: every proper prefix of its
    encoding makes the decoder wait, and `find_key` returns the character itself (`plainKey`: the one-character
    string `[c]`; in bytes mode its bytes), `rest` untouched. -/
theorem C03_chars (T : KeyTables) (hT : T.WF) (enc : Enc) (c : Nat) (bs : List Nat)
    (hbs : charBytes enc c = some bs) (hnk : T.isKey bs = false) (mode : KeyMode) (rest : List Nat) :
    (∀ i, 1 ≤ i → i < bs.length → getKey T (bs.take i) enc mode false = .ok none) ∧
    findKey T enc mode (bs ++ rest) = .ok (some (plainKey mode [c] bs, bs, rest)) := by
  rcases charBytes_some hbs with ⟨rfl, hs, rfl⟩ | ⟨rfl, hdec⟩
  · have h := findKey_char_utf8 hT mode rest (encode_shape c hs) hnk
    rwa [val_encode] at h
  · have hw : ∀ i, 1 ≤ i → i < [c].length → getKey T ([c].take i) enc mode false = .ok none := by
      intro i h1 h2
      simp at h2
      omega
    refine ⟨hw, findKey_decodable_unit enc mode rest (Nat.le_trans (by simp) hT.fits_utf8) (by simp) hdec hnk ?_ hw⟩
    intro hmem
    have := hT.esc_is_key _ hmem rfl
    rw [this] at hnk
    cases hnk

/-- The other half: a character whose encoding IS a table key (control characters, space, DEL; under latin-1
    all of 0x80..0xFF - with the tables as they stand in /repo, 162 of the 256 latin-1 characters; under utf-8 never
    a multi-byte encoding) is reported under its TABLE name, not as itself. This is the reading the check uses. -/
theorem C03_chars_table_key (T : KeyTables) (hT : T.WF) (enc : Enc) (c : Nat) (bs : List Nat)
    (hbs : charBytes enc c = some bs) (hk : T.isKey bs = true) (mode : KeyMode) (rest : List Nat)
    (hc : ¬ metaCollision enc bs rest) (hd : ¬ d43Collision enc bs rest) (hp : rest = [] ∨ bs ∉ T.prefixes) :
    bs.length = 1 ∧ ∃ k, findKey T enc mode (bs ++ rest) = .ok (some (k, bs, rest)) ∧ tableName T bs enc mode k := by
  refine ⟨?_, (C03_table T hT bs hk enc mode rest hc hd).2.1 hp⟩
  rcases charBytes_some hbs with ⟨rfl, hs, rfl⟩ | ⟨rfl, _⟩
  · exact isKey_shape_length hT (encode_shape c hs) hk
  · rfl

theorem C03_chars_generated (enc : Enc) (c : Nat) (bs : List Nat) (hbs : charBytes enc c = some bs)
    (hnk : genTables.isKey bs = false) (mode : KeyMode) (rest : List Nat) :
    (∀ i, 1 ≤ i → i < bs.length → getKey genTables (bs.take i) enc mode false = .ok none) ∧
    findKey genTables enc mode (bs ++ rest) = .ok (some (plainKey mode [c] bs, bs, rest)) :=
  C03_chars genTables genTables_wf enc c bs hbs hnk mode rest

/-- strict UTF-8: the encoding of every scalar value is one valid character, and `decodeOne` inverts `encode` -/
theorem C03_utf8_roundtrip (c : Nat) (hs : isScalar c) (r : List Nat) :
    validChar (encode c) ∧ decodeOne (encode c ++ r) = some (c, r) :=
  ⟨validChar_encode c hs, decodeOne_encode c hs r⟩

/-- Non-vacuity: U+20AC (e2 82 ac) followed by ESC under utf-8; 'a' under ascii. -/
example : charBytes .utf8 0x20AC = some [0xE2, 0x82, 0xAC] ∧ genTables.isKey [0xE2, 0x82, 0xAC] = false ∧
    findKey genTables .utf8 .curtsies ([0xE2, 0x82, 0xAC] ++ [27]) = .ok (some (.text [0x20AC], [0xE2, 0x82, 0xAC], [27])) := by
  decide +kernel
example : charBytes .ascii 97 = some [97] ∧ genTables.isKey [97] = false := by decide +kernel

/-- the property's "the bytes so far can still grow into a recognised sequence": `seq` begins a longer key of
    CURTSIES_NAMES or CURSES_NAMES (events.py:15-68) -/
def growsIntoKey (T : KeyTables) (seq : List Nat) : Prop :=
  ∃ e ∈ T.all, ∃ i < e.1.length, 1 ≤ i ∧ e.1.take i = seq

/-- The property's clause, for input made of recognised sequences and validly encoded characters: `seq ++ ext` is
    such input (`ext`: what has not been handed to the decoder yet), and `full` is as `find_key` computes it when
    nothing is left, otherwise arbitrary. If the decoder asks for more input on `seq`, then `seq` is a proper prefix
    of a table sequence, or (utf-8 only) at least one more byte completes `seq` to ONE strictly valid character.
    The hypothesis is about the INPUT, not about the model's own predicate. `hd43` excludes exactly D43's
    footprint, where the code does wait without a possible completion. -/
theorem C03_waits_only_when_growable (T : KeyTables) (hT : T.WF) (enc : Enc) (seq ext : List Nat)
    (mode : KeyMode) (full : Bool) (hrec : Recognised T enc (seq ++ ext)) (hfull : ext = [] → full = true)
    (hd43 : enc = .utf8 → headNoD43 (seq ++ ext)) (h : getKey T seq enc mode full = .ok none) :
    growsIntoKey T seq ∨ (enc = .utf8 ∧ ∃ e, e ≠ [] ∧ validChar (seq ++ e)) := by
  have hs := getKey_spec T seq enc mode full
  rw [← getKey_cut hT.core seq enc mode full, h] at hs
  obtain ⟨_, hfk, hw | hw⟩ := hs
  · obtain ⟨e, he, _, i, hi, h1, h2⟩ := hT.prefix_sound seq hw
    exact .inl ⟨e, he, i, hi, h1, h2⟩
  · -- `could_be_unfinished_char` accepts undecodable bytes only: none under ascii, and recognised latin-1 input decodes
    right
    cases enc with
    | ascii => simp [couldBeUnfinishedChar] at hw
    | latin1 =>
      have hb : ∀ b ∈ seq, okByte .latin1 b := fun b hb => hrec b (by simp [hb])
      simp [couldBeUnfinishedChar, decodable, decode_okSeq .latin1 seq hb] at hw
    | utf8 =>
      refine ⟨rfl, ?_⟩
      have hu : couldBeUnfinishedUtf8 seq = true := by
        simp only [couldBeUnfinishedChar] at hw
        split at hw
        · cases hw
        · exact hw
      cases seq with
      | nil => cases hu
      | cons b0 t =>
        have hlead := unfinished_lead hu
        rcases Recognised.head hrec with ⟨hb, _⟩ | ⟨hk, _, _, hnl⟩ | ⟨_, p, r', he, hp, h2, _⟩
        · simp only [okByte] at hb
          unfold isD43Byte at hlead
          omega
        · -- a one-byte key: all of the input (known, nothing left: no wait), or no lead byte and outside D43
          by_cases hr0 : t ++ ext = []
          · obtain ⟨rfl, rfl⟩ := List.append_eq_nil_iff.mp hr0
            rw [hfull rfl, keyKnown_of_isKey hk] at hfk
            cases hfk
          · exact (hlead.elim (hnl rfl hr0) (hd43 rfl b0 _ rfl hr0)).elim
        · -- a character `p` of the input: `b0` fixes its length, so `b0 :: t` is a proper prefix of `p`
          obtain ⟨b, t', rfl, _⟩ := hp.head_ge h2
          obtain rfl : b0 = b := List.head_eq_of_cons_eq he
          have hlt : t.length < t'.length := (unfinished_iff_shorter hp).mp hu
          have hpre : b0 :: t' <+: (b0 :: t) ++ ext := ⟨r', he.symm⟩
          obtain ⟨e, he'⟩ := List.prefix_of_prefix_length_le (List.prefix_append (b0 :: t) ext) hpre
            (Nat.succ_le_succ (Nat.le_of_lt hlt))
          refine ⟨e, fun h0 => ?_, he' ▸ hp.valid⟩
          have := congrArg List.length he'
          simp only [h0, List.append_nil, List.length_cons] at this
          omega

/-- Non-vacuity: `E2 82` with `AC` still to come is recognised input on which the decoder waits (also when told
    the buffer is exhausted), and `ESC [ 1` followed by `5 ~` likewise. -/
example : Recognised genTables .utf8 ([0xE2, 0x82] ++ [0xAC]) ∧
    getKey genTables [0xE2, 0x82] .utf8 .curtsies false = .ok none ∧
    getKey genTables [0xE2, 0x82] .utf8 .curtsies true = .ok none ∧
    getKey genTables [27, 91, 49] .utf8 .curtsies false = .ok none := by
  refine ⟨?_, by decide +kernel, by decide +kernel, by decide +kernel⟩
  exact RecUtf8.char [0xE2, 0x82, 0xAC] [] (.three _ _ _ (by omega) (by omega) (by decide) (by decide)
    (by omega) (by omega)) .nil

/-- a lead byte and continuation bytes valid so far (strict UTF-8 ranges), still incomplete; independent of the decoder -/
def wellFormedSoFar : List Nat → Prop
  | [b0] => 0xC2 ≤ b0 ∧ b0 < 0xF5
  | [b0, b1] => 0xE0 ≤ b0 ∧ b0 < 0xF5 ∧ isCont b1 = true ∧ (b0 = 0xE0 → 0xA0 ≤ b1) ∧ (b0 = 0xED → b1 < 0xA0) ∧
      (b0 = 0xF0 → 0x90 ≤ b1) ∧ (b0 = 0xF4 → b1 < 0x90)
  | [b0, b1, b2] => 0xF0 ≤ b0 ∧ b0 < 0xF5 ∧ isCont b1 = true ∧ isCont b2 = true ∧
      (b0 = 0xF0 → 0x90 ≤ b1) ∧ (b0 = 0xF4 → b1 < 0x90)
  | _ => False

theorem C03_wellformed_prefix_completes (seq : List Nat) (h : wellFormedSoFar seq) :
    ∃ ext, ext ≠ [] ∧ validChar (seq ++ ext) := by
  have c80 : isCont 0x80 = true := by decide
  have cA0 : isCont 0xA0 = true := by decide
  have c90 : isCont 0x90 = true := by decide
  match seq, h with
  | [b0], h =>
    simp only [wellFormedSoFar] at h
    by_cases h1 : b0 < 0xE0
    · exact ⟨[0x80], by simp, (Shape.two b0 0x80 h.1 h1 c80).valid⟩
    · by_cases h2 : b0 < 0xF0
      · by_cases e : b0 = 0xE0
        · exact ⟨[0xA0, 0x80], by simp, (Shape.three b0 0xA0 0x80 (Nat.le_of_not_lt h1) h2 cA0 c80 (by omega) (by omega)).valid⟩
        · exact ⟨[0x80, 0x80], by simp, (Shape.three b0 0x80 0x80 (Nat.le_of_not_lt h1) h2 c80 c80 (by omega) (by omega)).valid⟩
      · by_cases e : b0 = 0xF0
        · exact ⟨[0x90, 0x80, 0x80], by simp,
            (Shape.four b0 0x90 0x80 0x80 (Nat.le_of_not_lt h2) h.2 c90 c80 c80 (by omega) (by omega)).valid⟩
        · exact ⟨[0x80, 0x80, 0x80], by simp,
            (Shape.four b0 0x80 0x80 0x80 (Nat.le_of_not_lt h2) h.2 c80 c80 c80 (by omega) (by omega)).valid⟩
  | [b0, b1], h =>
    simp only [wellFormedSoFar] at h
    obtain ⟨h0, h0', i1, e1, e2, e3, e4⟩ := h
    by_cases h2 : b0 < 0xF0
    · exact ⟨[0x80], by simp, (Shape.three b0 b1 0x80 h0 h2 i1 c80 e1 e2).valid⟩
    · exact ⟨[0x80, 0x80], by simp, (Shape.four b0 b1 0x80 0x80 (Nat.le_of_not_lt h2) h0' i1 c80 c80 e3 e4).valid⟩
  | [b0, b1, b2], h =>
    simp only [wellFormedSoFar] at h
    obtain ⟨h0, h0', i1, i2, e3, e4⟩ := h
    exact ⟨[0x80], by simp, (Shape.four b0 b1 b2 0x80 h0 h0' i1 i2 c80 e3 e4).valid⟩

/-- The unconditional reading ("whenever the decoder waits, the bytes can be completed to a table sequence or a
    valid character", for ARBITRARY bytes) is false: under utf-8 the decoder waits on `E0 41`, which no
    continuation completes. NOT A FINDING: `E0 41` is outside the property's domain (it starts neither a recognised
    sequence nor a validly encoded character); hence the `Recognised` hypothesis of `C03_waits_only_when_growable`. -/
def C03_waits_unconditional_remark : Prop :=
  ∀ seq, getKey genTables seq .utf8 .curtsies false = .ok none →
    growsIntoKey genTables seq ∨ ∃ ext, validChar (seq ++ ext)

theorem C03_waits_unconditional_false : ¬ C03_waits_unconditional_remark := by
  intro h
  have h1 : getKey genTables [0xE0, 0x41] .utf8 .curtsies false = .ok none := by decide +kernel
  -- an entry with a two-byte proper prefix begins with ESC, and so does every KEYMAP_PREFIXES member
  have h2 : ¬ growsIntoKey genTables [0xE0, 0x41] := by
    rintro ⟨e, he, i, hi, h1, h⟩
    have hl := congrArg List.length h
    simp only [List.length_take, List.length_cons, List.length_nil] at hl
    have h27 := genTables_core.multibyte_esc e he (by omega)
    have := (genTables_core.prefix_len (genTables_core.prefix_closed e he h27 i hi h1)).2
    rw [h] at this
    cases this
  rcases h _ h1 with h3 | ⟨ext, c, h3⟩
  · exact h2 h3
  · cases ext with
    | nil => simp [decodeOne] at h3
    | cons x t => simp [decodeOne, isCont] at h3

/-- FULL statement: on input made of recognised sequences and validly encoded characters (`Recognised`) decoding
    the whole buffer never fails. FALSE for the code as it is: known findings D12 (`C03_D12_witness`) and D43
    (`C03_D43_witness`). -/
def C03_never_fails_full_statement : Prop :=
  ∀ (enc : Enc) (mode : KeyMode) (buf : List Nat), Recognised genTables enc buf →
    ∃ ps, segment genTables enc mode buf.length buf = .ok ps

/-- What is proved: the full statement with two extra hypotheses, each EXACTLY the complement of one known
    finding's footprint relative to the decoder's own run: `runNoD12` (utf-8 and ascii) and `runNoD43` (utf-8).
    Missing relative to the full statement: the D12 and D43 regions themselves (where the code does fail). -/
theorem C03_never_fails_partial (T : KeyTables) (hT : T.WF) (enc : Enc) (mode : KeyMode) (n : Nat) :
    ∀ buf : List Nat, buf.length ≤ n → Recognised T enc buf → (enc = .latin1 ∨ runNoD12 T enc mode n buf) →
    (enc = .utf8 → runNoD43 T enc mode n buf) →
    ∃ ps, segment T enc mode n buf = .ok ps := by
  induction n with
  | zero =>
    intro buf hl _ _ _
    obtain rfl : buf = [] := List.eq_nil_of_length_eq_zero (Nat.le_zero.mp hl)
    exact ⟨[], rfl⟩
  | succ n ih =>
    intro buf hl hrec hno hd
    cases buf with
    | nil => exact ⟨[], rfl⟩
    | cons b bs =>
      obtain ⟨k, c, r, hf, hr⟩ := findKey_recognised hT enc mode (b :: bs) (by simp) hrec
        (hno.imp id (fun h => h.1)) (fun he => (hd he).1)
      obtain ⟨h1, h2⟩ := C03_lossless T enc mode _ k c r hf
      have hlen : r.length ≤ n := by
        have : (c ++ r).length = (b :: bs).length := by rw [h1]
        have hc : 0 < c.length := List.length_pos_iff.mpr h2
        simp at this hl
        omega
      obtain ⟨ps, hps⟩ := ih r hlen hr (hno.imp id (fun h => h.2 k c r hf)) (fun he => (hd he).2 k c r hf)
      exact ⟨(k, c) :: ps, by simp [segment, hf, hps]⟩

/-- The same with STATIC, decoder-independent hypotheses: `noD12` (it over-approximates D12's footprint:
    `1b 5b 31 1b c3 a9` is excluded although it decodes) and `noD43` (exact on recognised input). -/
theorem C03_never_fails_static (T : KeyTables) (hT : T.WF) (enc : Enc) (mode : KeyMode) (n : Nat)
    (buf : List Nat) (hl : buf.length ≤ n) (hrec : Recognised T enc buf) (hno : enc = .latin1 ∨ noD12 T buf)
    (hd : enc = .utf8 → noD43 buf) :
    ∃ ps, segment T enc mode n buf = .ok ps :=
  C03_never_fails_partial T hT enc mode n buf hl hrec (hno.imp id (runNoD12_of_noD12 enc mode n buf))
    (fun he => runNoD43_of_noD43 enc mode n buf (hd he))

/-- `C03_never_fails_partial` for the regenerated tables and the fuel the driver uses. -/
theorem C03_never_fails_generated (enc : Enc) (mode : KeyMode) (buf : List Nat)
    (hrec : Recognised genTables enc buf)
    (hno : enc = .latin1 ∨ runNoD12 genTables enc mode buf.length buf)
    (hd : enc = .utf8 → runNoD43 genTables enc mode buf.length buf) :
    ∃ ps, segment genTables enc mode buf.length buf = .ok ps :=
  C03_never_fails_partial genTables genTables_wf enc mode buf.length buf (Nat.le_refl _) hrec hno hd

/-- Known finding D43, witnessed on the model (and replayed on the real code by the harness on every run):
    0xC0 is a one-byte key (<Meta-@>) and not a UTF-8 lead byte, so `c0 41` is recognised input (<Meta-@>, 'A');
    the decoder waits on `c0` and raises UnicodeDecodeError on `c0 41`; on `f8 61` it waits even when told the
    buffer is exhausted (so `find_key` raises ValueError). The full statement is false here too. -/
theorem C03_D43_witness :
    genTables.isKey [0xC0] = true ∧ isD43Byte 0xC0 ∧ Recognised genTables .utf8 [0xC0, 0x41] ∧
    getKey genTables [0xC0] .utf8 .curtsies false = .ok none ∧
    getKey genTables [0xC0, 0x41] .utf8 .curtsies true = .error .unicodeDecodeError ∧
    getKey genTables [0xF8, 0x61] .utf8 .curtsies true = .ok none ∧
    findKey genTables .utf8 .curtsies [0xF8, 0x61] = .error .valueError ∧
    segment genTables .utf8 .curtsies 2 [0xC0, 0x41] = .error .unicodeDecodeError := by
  have hk : genTables.isKey [0xC0] = true := by decide +kernel
  refine ⟨hk, by decide, ?_, by decide +kernel, by decide +kernel, by decide +kernel, by decide +kernel,
    by decide +kernel⟩
  exact RecUtf8.key8 0xC0 [0x41] hk (by omega) (by omega) (RecUtf8.char [0x41] [] (.one _ (by omega)) .nil)

/-- Known finding D12, witnessed on the model (and replayed on the real code by the harness on every run):
    ESC (a key and a KEYMAP_PREFIXES member) followed by the 8-bit key 0xFF (<Meta-BACKSPACE>) is recognised
    input, and decoding it fails with UnicodeDecodeError under utf-8 and ascii, in `get_key` itself. So the full
    statement is false. -/
theorem C03_D12_witness :
    genTables.isKey [0x1b] = true ∧ genTables.isKey [0xff] = true ∧ [0x1b] ∈ genTables.prefixes ∧
    getKey genTables [0x1b, 0xff] .utf8 .curtsies false = .error .unicodeDecodeError ∧
    getKey genTables [0x1b, 0xff] .ascii .curtsies false = .error .unicodeDecodeError ∧
    getKey genTables [0x1b, 0xff] .utf8 .curtsies true = .error .unicodeDecodeError ∧
    findKey genTables .utf8 .curtsies [0x1b, 0xc3, 0xa9] = .error .unicodeDecodeError ∧
    ¬ C03_never_fails_full_statement := by
  have hk : genTables.isKey [0xff] = true := by decide +kernel
  refine ⟨by decide +kernel, hk, by decide +kernel, by decide +kernel, by decide +kernel, by decide +kernel,
    by decide +kernel, ?_⟩
  intro h
  have hrec : Recognised genTables .utf8 [0x1b, 0xff] :=
    RecUtf8.char [0x1b] [0xff] (.one 0x1b (by omega)) (.last 0xff hk)
  obtain ⟨ps, hps⟩ := h .utf8 .curtsies _ hrec
  have hs : segment genTables .utf8 .curtsies 2 [0x1b, 0xff] = .error .unicodeDecodeError := by decide +kernel
  cases hs.symm.trans hps

/-- `noD12` excludes `1b 5b 31 1b c3 a9`, which decodes without failure (and on which the exact `runNoD12` holds:
    the decoder's states `1b`, `1b 5b`, `1b 5b 31` are followed by ASCII bytes, and `c3 a9` starts a fresh call). -/
example : ¬ noD12 genTables [27, 91, 49, 27, 0xC3, 0xA9] ∧
    ∃ ps, segment genTables .utf8 .curtsies 6 [27, 91, 49, 27, 0xC3, 0xA9] = .ok ps := by
  refine ⟨?_, [(.text [27, 91, 49, 27], [27, 91, 49, 27]), (.text [0xE9], [0xC3, 0xA9])], by decide +kernel⟩
  intro h
  have := h [27, 91, 49] [27] 0xC3 [0xA9] (by simp) (by decide +kernel)
  omega

/-- Non-vacuity of `C03_never_fails_partial`: `ESC [ A`, U+00E9 and a final 0xFF form recognised input with no
    KEYMAP_PREFIXES member followed by a byte >= 0x80 ... -/
example : Recognised genTables .utf8 ([27] ++ ([91] ++ ([65] ++ ([0xC3, 0xA9] ++ [0xFF])))) :=
  .char _ _ (.one _ (by omega)) (.char _ _ (.one _ (by omega)) (.char _ _ (.one _ (by omega))
    (.char _ _ (.two _ _ (by omega) (by omega) (by decide)) (.last _ (by decide +kernel)))))
/-- ... and decodes. -/
example : segment genTables .utf8 .curtsies 6 [27, 91, 65, 0xC3, 0xA9, 0xFF] =
    .ok [(.text (cpsOf "<UP>"), [27, 91, 65]), (.text [0xE9], [0xC3, 0xA9]), (.text (cpsOf "<Meta-BACKSPACE>"), [0xFF])] := by
  decide +kernel

/-- one unit of "input made of recognised escape sequences and validly encoded characters": a table sequence or
    one valid character; under utf-8 a single-byte table key whose value is a UTF-8 lead byte (C2..F4) is not a
    unit here (it may only END the input: `final` in `C03_units_recognised`) -/
def isUnit (T : KeyTables) : Enc → List Nat → Prop
  | .utf8, u => (T.isKey u = true ∧ ∀ b, u = [b] → ¬ (0xC2 ≤ b ∧ b ≤ 0xF4)) ∨ Shape u
  | .ascii, u => T.isKey u = true ∨ ∃ b, u = [b] ∧ b < 128
  | .latin1, u => T.isKey u = true ∨ ∃ b, u = [b] ∧ b < 256

/-- Concatenations of units are `Recognised` (so `C03_never_fails_partial` speaks about exactly the inputs the
    property names). -/
theorem C03_units_recognised (T : KeyTables) (hT : T.WF) (enc : Enc) (units : List (List Nat)) (final : List Nat)
    (hu : ∀ u ∈ units, isUnit T enc u)
    (hf : final = [] ∨ (enc = .utf8 ∧ ∃ b, final = [b] ∧ T.isKey [b] = true)) :
    Recognised T enc (units.flatten ++ final) := by
  induction units with
  | nil =>
    rcases hf with rfl | ⟨rfl, b, rfl, hb⟩
    · cases enc
      · exact .nil
      · exact nofun
      · exact nofun
    · exact .last b hb
  | cons u us ih =>
    have ih := ih fun v hv => hu v (List.mem_cons_of_mem _ hv)
    have hu := hu u List.mem_cons_self
    rw [List.flatten_cons, List.append_assoc]
    generalize us.flatten ++ final = r at ih
    cases enc with
    | utf8 =>
      rcases hu with ⟨hk, h1⟩ | hs
      · rcases isKey_cases hT hk with ⟨b, rfl⟩ | ⟨_, ha⟩
        · by_cases hb : b < 128
          · exact .char [b] _ (.one b hb) ih
          · exact .key8 b _ hk (by omega) (h1 b rfl) ih
        · exact recUtf8_ascii_append ha ih
      · exact .char u _ hs ih
    | ascii =>
      refine List.forall_mem_append.mpr ⟨?_, ih⟩
      rcases hu with hk | ⟨b', rfl, hb'⟩
      · rcases isKey_cases hT hk with ⟨x, rfl⟩ | ⟨_, ha⟩
        · exact fun b hb => .inr (List.mem_singleton.mp hb ▸ hk)
        · exact fun b hb => .inl (ha b hb)
      · exact fun b hb => .inl (List.mem_singleton.mp hb ▸ hb')
    | latin1 =>
      refine List.forall_mem_append.mpr ⟨?_, ih⟩
      rcases hu with hk | ⟨b', rfl, hb'⟩
      · exact (isKey_entry hT hk).2.1
      · exact fun b hb => List.mem_singleton.mp hb ▸ hb'

/-- Non-vacuity: F5 and the character U+20AC are units. -/
example : isUnit genTables .utf8 [27, 91, 49, 53, 126] ∧ isUnit genTables .utf8 [0xE2, 0x82, 0xAC] := by
  refine ⟨Or.inl ⟨by decide +kernel, ?_⟩, Or.inr ?_⟩
  · intro b h
    cases h
  · exact .three _ _ _ (by omega) (by omega) (by decide) (by decide) (by omega) (by omega)

end Curtsies
