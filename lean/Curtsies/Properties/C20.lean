/-
  C20 - Key naming modes and config-file key names are mutually consistent.

  Model: `getKey`, `keyName` (events.get_key / _key_name), `keymapGet` (configfile_keynames.KeyMap.__getitem__)
  in Model/Keys.lean; tables and SPECIALS regenerated from /repo (Generated/Keys.lean).
  The theorems hold for ARBITRARY tables meeting the decidable side conditions `T.Core` (Proofs/KeysCore.lean),
  which `genTables_core` (Proofs/KeysGenCore.lean) re-proves over the regenerated tables on every build.
  They do NOT need "multi-byte entries are ASCII" (C03's premise): this file does not import Properties/C03.lean.

  Domain of C20_config (the property's "every key a configuration file can name ... all letters, all printable
  characters, all function keys, all specials"): C-<letter a..z, A..Z>, M-<printable ASCII character 0x20..0x7e>,
  M-<non-ASCII printable character; three representatives>, F1..F12, the documented SPECIALS, and the empty
  (unbound) name. KNOWN FINDING D42: C-<UPPER-CASE letter> and M-<non-ASCII character> map to names the decoder
  never produces; `C20_config_partial` carries the complement of that footprint (`isD42Name`), the full statement
  is `C20_config_full_statement`, refuted by `C20_D42_witness`. The property is silent on malformed names;
  `keymapGet` models them (KeyError etc.) and the harness ties them.
-/
import Curtsies.Proofs.KeysGenCore
namespace Curtsies

/-- The three naming modes differ only in names: for the same bytes, encoding and `full` they decide alike
    (wait / key / the same exception kind) - for all inputs. -/
theorem C20_same_cuts (T : KeyTables) (hT : T.Core) (seq : List Nat) (enc : Enc) (m₁ m₂ : KeyMode) (full : Bool) :
    cutOf (getKey T seq enc m₁ full) = cutOf (getKey T seq enc m₂ full) := by
  rw [getKey_cut hT, getKey_cut hT]

/-- where one `find_key()` call cuts: `findKeyLoop` with `KeyTables.cut` for `getKey`, nothing named -/
def cutLoop (T : KeyTables) (enc : Enc) : List Nat → List Nat → Except PyErr (Option (List Nat × List Nat))
  | cur, [] => if cur.isEmpty then .ok none else .error .valueError
  | cur, b :: rest =>
    match T.cut (cur ++ [b]) enc rest.isEmpty with
    | .fail e => .error e
    | .key => .ok (some (cur ++ [b], rest))
    | .wait => cutLoop T enc (cur ++ [b]) rest

def cutSegment (T : KeyTables) (enc : Enc) : Nat → List Nat → Except PyErr (List (List Nat))
  | _, [] => .ok []
  | 0, _ :: _ => .error .otherException
  | n + 1, b :: bs =>
    match cutLoop T enc [] (b :: bs) with
    | .error e => .error e
    | .ok none => .ok []
    | .ok (some (c, r)) => (cutSegment T enc n r).map (c :: ·)

/-- where the decoder cuts is a function of the bytes and the encoding alone -/
theorem findKeyLoop_cuts {T : KeyTables} (hT : T.Core) (enc : Enc) (mode : KeyMode) : ∀ cur un,
    (findKeyLoop T enc mode cur un).map (Option.map (·.2)) = cutLoop T enc cur un
  | cur, [] => by
    simp only [findKeyLoop, cutLoop]
    split <;> rfl
  | cur, b :: rest => by
    have h := getKey_cut hT (cur ++ [b]) enc mode rest.isEmpty
    simp only [findKeyLoop, cutLoop, ← h]
    cases getKey T (cur ++ [b]) enc mode rest.isEmpty with
    | error e => rfl
    | ok o => cases o with
      | none => exact findKeyLoop_cuts hT enc mode _ rest
      | some k => rfl

theorem segment_cuts {T : KeyTables} (hT : T.Core) (enc : Enc) (mode : KeyMode) : ∀ n buf,
    (segment T enc mode n buf).map (List.map (·.2)) = cutSegment T enc n buf
  | 0, [] => rfl
  | _ + 1, [] => rfl
  | 0, _ :: _ => rfl
  | n + 1, b :: bs => by
    have h := findKeyLoop_cuts hT enc mode [] (b :: bs)
    simp only [segment, cutSegment, findKey, ← h]
    cases findKeyLoop T enc mode [] (b :: bs) with
    | error e => rfl
    | ok o => cases o with
      | none => rfl
      | some p =>
        obtain ⟨k, c, r⟩ := p
        simp only [Except.map, Option.map, ← segment_cuts hT enc mode n r]
        cases segment T enc mode n r <;> rfl

/-- ... hence `find_key` consumes the same bytes in every mode ... -/
theorem C20_same_cuts_findKey (T : KeyTables) (hT : T.Core) (enc : Enc) (m₁ m₂ : KeyMode) (buf : List Nat) :
    (findKey T enc m₁ buf).map (Option.map (·.2)) = (findKey T enc m₂ buf).map (Option.map (·.2)) := by
  simp only [findKey, findKeyLoop_cuts hT]

/-- ... and a whole run (`segment`) is cut into the same pieces in every mode (the same consumed byte strings in the
    same order, or the same exception). -/
theorem C20_same_cuts_segment (T : KeyTables) (hT : T.Core) (enc : Enc) (m₁ m₂ : KeyMode) (n : Nat) (buf : List Nat) :
    (segment T enc m₁ n buf).map (List.map (·.2)) = (segment T enc m₂ n buf).map (List.map (·.2)) := by
  rw [segment_cuts hT, segment_cuts hT]

/-- 'bytes' naming returns exactly the bytes of the keypress. -/
theorem C20_bytes (T : KeyTables) (s : List Nat) (e : Enc) (full : Bool) (k : KeyVal)
    (h : getKey T s e .bytes full = .ok (some k)) : k = .bytes s :=
  getKey_bytes h

/-- Every sequence that has a curses-style name also has a curtsies name (regenerated tables). -/
theorem C20_subset : ∀ e ∈ Generated.cursesNamesCps, (Generated.curtsiesNamesCps.lookup e.1).isSome :=
  genTables_core.subset

/-- Curses naming never raises NotImplementedError - for ANY tables: `_key_name` calls an undecodable multi-byte
    sequence without a curses name `bytes: xNN-xNN...` (`bytesName`, events.py:181). -/
theorem C20_no_unnameable (T : KeyTables) (seq : List Nat) (enc : Enc) (mode : KeyMode) (full : Bool) :
    (∃ k, keyName T seq enc .curses = .ok k) ∧ getKey T seq enc mode full ≠ .error .notImplementedError := by
  refine ⟨keyName_curses_ok T seq enc, fun h => ?_⟩
  have hs := getKey_spec T seq enc mode full
  generalize T.cut seq enc full = c at hs
  cases c with
  | wait =>
    rw [hs.1] at h
    cases h
  | fail e =>
    rw [hs.1] at h
    cases h
    rcases hs.2 with hs | hs <;> cases hs
  | key =>
    -- `_key_name` raises under curtsies naming only, and then UnicodeDecodeError
    rw [hs.1] at h
    cases mode with
    | bytes => cases h
    | curses =>
      obtain ⟨k, hk⟩ := keyName_curses_ok T seq enc
      rw [hk] at h
      cases h
    | curtsies =>
      simp only [keyName] at h
      split at h
      · cases h
      · split at h <;> cases h

/-- `n` is a name the decoder can actually produce: under curtsies naming `find_key` returns it for some table
    sequence `u`, as one keypress consuming exactly `u` -/
def producible (T : KeyTables) (n : List Nat) : Prop :=
  ∃ u enc rest, T.isKey u = true ∧ findKey T enc .curtsies (u ++ rest) = .ok (some (.text n, u, rest))

/-- every curtsies table name is produced by `get_key` on its sequence when the buffer is exhausted ... -/
theorem C20_table_names_producible (T : KeyTables) (hT : T.Core) (u : List Nat) (name : List Nat)
    (h : T.curtsies.lookup u = some name) (enc : Enc) :
    getKey T u enc .curtsies true = .ok (some (.text name)) :=
  getKey_table_whole_core hT h enc

/-- ... and by `find_key` on a buffer holding exactly that sequence, under every encoding. -/
theorem C20_table_names_producible_findKey (T : KeyTables) (hT : T.Core) (u : List Nat) (name : List Nat)
    (h : T.curtsies.lookup u = some name) (enc : Enc) :
    findKey T enc .curtsies (u ++ []) = .ok (some (.text name, u, [])) :=
  findKey_table_whole_core hT u name h enc

/-- the configuration names the property quantifies over; three representatives U+00E9, U+00DF, U+0416 for
    `M-<non-ASCII printable character>` -/
def validConfigNames (specials : List (List Nat × List Nat)) : List (List Nat) :=
  specials.map (fun p => p.1) ++ (List.range 26).map (fun i => [67, 45, 97 + i]) ++
  (List.range 26).map (fun i => [67, 45, 65 + i]) ++
  (List.range 95).map (fun i => [77, 45, 32 + i]) ++ [[77, 45, 0xE9], [77, 45, 0xDF], [77, 45, 0x416]] ++
  (List.range 12).map (fun i => 70 :: natCps (i + 1))

/-- Footprint of known finding D42: the two name shapes `C-<UPPER-CASE letter>` and `M-<non-ASCII character>`. -/
def isD42Name : List Nat → Bool
  | [67, 45, c] => 65 ≤ c && c ≤ 90
  | [77, 45, c] => 128 ≤ c
  | _ => false

/-- `keymap[k]` (configfile_keynames.py:19) returns at least one name, and each is a value of CURTSIES_NAMES
    (events.py:15-25): what evaluation can decide of "maps to names that the decoder can actually produce" -/
def configOk (T : KeyTables) (specials : List (List Nat × List Nat)) (k : List Nat) : Bool :=
  match keymapGet specials k with
  | .ok names => !names.isEmpty && names.all fun n => (T.curtsies.map (·.2)).contains n
  | .error _ => false

/-- `"<Esc+%s>" % ("SPACE" if c == " " else c)` -/
def escName (c : Nat) : List Nat := [60, 69, 115, 99, 43] ++ (if c = 32 then [83, 80, 65, 67, 69] else [c]) ++ [62]

/-- `"<Meta-%s>" % c` -/
def metaName (c : Nat) : List Nat := [60, 77, 101, 116, 97, 45, c, 62]

theorem keymapGet_meta {specials : List (List Nat × List Nat)} {c : Nat} (h : specials.lookup [77, 45, c] = none) :
    keymapGet specials [77, 45, c] = .ok [escName c, metaName c] := by
  simp [keymapGet, h, escName, metaName]

theorem producible_of_mem {T : KeyTables} (hT : T.Core) {u n : List Nat} (he : (u, n) ∈ T.curtsies) :
    producible T n :=
  have h := hT.curtsies_lookup _ he
  ⟨u, .utf8, [], isKey_of_curtsies_name h, findKey_table_whole_core hT u n h .utf8⟩

theorem producible_of_configOk {T : KeyTables} (hT : T.Core) {specials : List (List Nat × List Nat)} {k : List Nat}
    (h : configOk T specials k = true) :
    ∃ names, keymapGet specials k = .ok names ∧ names ≠ [] ∧ ∀ n ∈ names, producible T n := by
  simp only [configOk] at h
  split at h
  · rename_i names hn
    simp only [Bool.and_eq_true, Bool.not_eq_true', List.isEmpty_eq_false_iff, List.all_eq_true,
      List.contains_iff_mem, List.mem_map] at h
    refine ⟨names, hn, h.1, fun n hn' => ?_⟩
    obtain ⟨e, he, rfl⟩ := h.2 n hn'
    exact producible_of_mem hT he
  · cases h

/-- events.py:16-21 calls `ESC c` `<Esc+c>` and the byte `c + 0x80` `<Meta-c>` for every printable ASCII `c` (SPACE
    renamed): the names `keymap["M-c"]` yields. One pass each, the table being in ascending key order. -/
theorem printable_entries :
    ((List.range 95).map fun i => ([27, 32 + i], escName (32 + i))).Sublist genTables.curtsies ∧
    ((List.range 95).map fun i => ([160 + i], metaName (32 + i))).Sublist genTables.curtsies := by
  simp only [← List.isSublist_iff_sublist]
  decide +kernel

/-- Segments 1, 2 and 6 of `validConfigNames` (SPECIALS, `C-<lower-case letter>`, F1..F12), typed again since that
    definition does not name its segments: the names whose images are looked up in the table one by one (`config_check`).
    Of the other three, 3 and 5 are D42's footprint, and the images of 4 (`M-<printable ASCII>`) stand in the table by
    a rule (`keymapGet_meta`, `printable_entries`). -/
def searchedNames (specials : List (List Nat × List Nat)) : List (List Nat) :=
  specials.map (fun p => p.1) ++ (List.range 26).map (fun i => [67, 45, 97 + i]) ++
  (List.range 12).map (fun i => 70 :: natCps (i + 1))

theorem config_check : ∀ k ∈ searchedNames Generated.configSpecialsCps,
    configOk genTables Generated.configSpecialsCps k = true := by decide +kernel

theorem specials_lookup_meta : ∀ i ∈ List.range 95, Generated.configSpecialsCps.lookup [77, 45, 32 + i] = none := by
  decide +kernel

/-- FULL statement: every key a configuration file can name maps to at least one name, and every name it maps to
    is one the decoder actually produces. FALSE for the code as it is (`C20_D42_witness`): known finding D42. -/
def C20_config_full_statement : Prop :=
  ∀ k ∈ validConfigNames Generated.configSpecialsCps,
    ∃ names, keymapGet Generated.configSpecialsCps k = .ok names ∧ names ≠ [] ∧
      ∀ n ∈ names, producible genTables n

/-- What is proved: the full statement for every valid name outside D42's footprint (`isD42Name`: C-<UPPER-CASE
    letter>, M-<non-ASCII character>). Missing: exactly those two shapes, where the code does map to names the
    decoder never produces. -/
theorem C20_config_partial : ∀ k ∈ validConfigNames Generated.configSpecialsCps, isD42Name k = false →
    ∃ names, keymapGet Generated.configSpecialsCps k = .ok names ∧ names ≠ [] ∧
      ∀ n ∈ names, producible genTables n := by
  intro k hk hd
  have searched := fun hk => producible_of_configOk genTables_core (config_check k hk)
  simp only [validConfigNames, List.mem_append] at hk
  -- SPECIALS, C-<lower>, C-<UPPER>, M-<printable ASCII>, M-<non-ASCII>, F1..F12
  rcases hk with ((((hk | hk) | hk) | hk) | hk) | hk
  · exact searched (List.mem_append_left _ (List.mem_append_left _ hk))
  · exact searched (List.mem_append_left _ (List.mem_append_right _ hk))
  · -- D42's footprint
    obtain ⟨i, hi, rfl⟩ := List.mem_map.mp hk
    have := List.mem_range.mp hi
    simp only [isD42Name, Bool.and_eq_false_iff, decide_eq_false_iff_not] at hd
    omega
  · -- `M-c`: `<Esc+c>` is what `ESC c` is called, `<Meta-c>` what `c + 0x80` is called
    obtain ⟨i, hi, rfl⟩ := List.mem_map.mp hk
    refine ⟨_, keymapGet_meta (specials_lookup_meta i hi), List.cons_ne_nil _ _, fun n hn => ?_⟩
    rcases List.mem_cons.mp hn with rfl | hn
    · exact producible_of_mem genTables_core (printable_entries.1.subset (List.mem_map_of_mem hi))
    · obtain rfl := List.mem_singleton.mp hn
      exact producible_of_mem genTables_core (printable_entries.2.subset (List.mem_map_of_mem hi))
  · -- D42's footprint
    simp only [List.mem_cons, List.not_mem_nil, or_false] at hk
    rcases hk with rfl | rfl | rfl <;> cases hd
  · exact searched (List.mem_append_right _ hk)

theorem producible_in_table {T : KeyTables} (hT : T.Core) {n : List Nat} (h : producible T n) :
    ∃ u, (u, n) ∈ T.curtsies := by
  obtain ⟨u, enc, rest, hu, hf⟩ := h
  obtain ⟨full, hg⟩ := (findKeyLoop_ok hf).2.2
  have hk := getKey_some_keyName hg
  obtain ⟨n', hn'⟩ := curtsies_name_of_isKey hT hu
  simp only [keyName, hn'] at hk
  cases hk
  exact ⟨u, lookup_mem hn'⟩

/-- Known finding D42, witnessed on the model: `C-A` and `M-é` are configuration names in the property's domain
    ("all letters, all printable characters"); `keymap` maps them to `<Ctrl-A>` and to `<Esc+é>`, `<Meta-é>`;
    no table sequence is called any of these, so the decoder never produces them and the full statement is
    false. -/
theorem C20_D42_witness :
    [67, 45, 65] ∈ validConfigNames Generated.configSpecialsCps ∧
    keymapGet Generated.configSpecialsCps [67, 45, 65] = .ok [[60, 67, 116, 114, 108, 45, 65, 62]] ∧
    ¬ producible genTables [60, 67, 116, 114, 108, 45, 65, 62] ∧
    [77, 45, 0xE9] ∈ validConfigNames Generated.configSpecialsCps ∧
    keymapGet Generated.configSpecialsCps [77, 45, 0xE9] =
      .ok [[60, 69, 115, 99, 43, 0xE9, 62], [60, 77, 101, 116, 97, 45, 0xE9, 62]] ∧
    ¬ producible genTables [60, 69, 115, 99, 43, 0xE9, 62] ∧
    ¬ C20_config_full_statement := by
  have unnamed : ∀ n, (genTables.curtsies.all fun e => e.2 != n) = true → ¬ producible genTables n := by
    intro n t h
    obtain ⟨u, he⟩ := producible_in_table genTables_core h
    exact bne_iff_ne.mp (List.all_eq_true.mp t _ he) rfl
  have p1 := unnamed [60, 67, 116, 114, 108, 45, 65, 62] (by decide +kernel)
  have m1 : [67, 45, 65] ∈ validConfigNames Generated.configSpecialsCps := by decide +kernel
  have k1 : keymapGet Generated.configSpecialsCps [67, 45, 65] = .ok [[60, 67, 116, 114, 108, 45, 65, 62]] := by
    decide +kernel
  refine ⟨m1, k1, p1, by decide +kernel, by decide +kernel, unnamed _ (by decide +kernel), ?_⟩
  intro h
  obtain ⟨names, hn, _, hp⟩ := h _ m1
  rw [k1] at hn
  cases hn
  exact p1 (hp _ (by simp))

/-- An unbound key (the empty name) maps to nothing - for any SPECIALS table. -/
theorem C20_config_unbound (specials : List (List Nat × List Nat)) : keymapGet specials [] = .ok [] := rfl

/-- Non-vacuity: `C-a`, `M-x`, `M- `, `F12`, `C-i` (SPECIALS) are among the valid names, outside D42's footprint, and
    map as expected. -/
example : [67, 45, 97] ∈ validConfigNames Generated.configSpecialsCps ∧ isD42Name [67, 45, 97] = false ∧
    [77, 45, 32] ∈ validConfigNames Generated.configSpecialsCps ∧
    keymapGet Generated.configSpecialsCps [77, 45, 32] = .ok [cpsOf "<Esc+SPACE>", cpsOf "<Meta- >"] ∧
    keymapGet Generated.configSpecialsCps [67, 45, 97] = .ok [cpsOf "<Ctrl-a>"] ∧
    keymapGet Generated.configSpecialsCps [77, 45, 120] = .ok [cpsOf "<Esc+x>", cpsOf "<Meta-x>"] ∧
    keymapGet Generated.configSpecialsCps (cpsOf "F12") = .ok [cpsOf "<F12>"] ∧
    keymapGet Generated.configSpecialsCps (cpsOf "C-i") = .ok [cpsOf "<TAB>"] := by decide +kernel

end Curtsies
