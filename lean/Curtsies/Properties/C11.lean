/-
  C11 - width_aware_splitlines wraps to the column limit without losing anything.

  For every Unicode environment `u`, every FmtStr `f` whose characters have width 0, 1 or 2 (`u.sane`, what the
  library's guard checks) and every `columns ≥ 2`, `C11_wrap` ties the lines to the cells of `f` by the relation
  `Lines`; the other clauses are read off `Lines`. Placement of zero-width characters at a line boundary is left
  open by the relation (the code lets a combining character stay on a full line only when it is in the same run).
-/
import Curtsies.Proofs.Width
namespace Curtsies

/-- `Lines u columns l out`: `out` is `l` cut into consecutive lines for a terminal `columns` wide.
    * `line`: a non-empty segment no wider than `columns` - exactly `columns` wide unless it is the last;
    * `padded`: a segment one column short of the limit followed by a double-width character `c`: the line is
      the segment plus ONE space formatted like `c`, and `c` starts the next line.
    Nothing else can be added, dropped, reordered or restyled: the segments concatenate to `l`. -/
inductive Lines (u : UEnv) (columns : Int) : List Cell → List (List Cell) → Prop
  | nil : Lines u columns [] []
  | line {seg rest : List Cell} {out : List (List Cell)} :
      seg ≠ [] → cellsWidth u seg ≤ columns → (rest ≠ [] → cellsWidth u seg = columns) →
      Lines u columns rest out → Lines u columns (seg ++ rest) (seg :: out)
  | padded {seg rest : List Cell} {c : Char} {a : Atts} {out : List (List Cell)} :
      cellsWidth u seg = columns - 1 → u.wcwidth c = 2 →
      Lines u columns ((c, a) :: rest) out →
      Lines u columns (seg ++ (c, a) :: rest) ((seg ++ [(' ', a)]) :: out)

/-- The request began after `s0` and has collected `done`. The loop takes a prefix `taken` of `rest` and pads
    (`pad = [' ']`) when it stops one column short before a wide character. -/
private theorem requestLoop_spec (u : UEnv) (s : Text) (atts : Atts) (m : Int) (s0 done rest : List Char) (i : Nat)
    (width : Int) (hs : s = s0 ++ done ++ rest) (hi : i = (s0 ++ done).length) (hwid : width = colWidth u done)
    (hsane : u.sane s) (hne : rest ≠ []) (hwm : width ≤ m) :
    ∃ w taken pad remaining,
      requestLoop u s atts m s0.length s.length rest i width
        = .ok (w, ⟨done ++ (taken ++ pad), atts⟩, (s0 ++ (done ++ taken)).length, colWidth u (done ++ taken)) ∧
      rest = taken ++ remaining ∧ w ≤ m ∧
      (pad = [] ∧ w = colWidth u (done ++ taken) ∧ (taken = [] → m ≤ width) ∧ (remaining ≠ [] → w = m)
       ∨ pad = [' '] ∧ w = colWidth u (done ++ taken) + 1 ∧ w = m ∧
          ∃ c rem', remaining = c :: rem' ∧ u.wcwidth c = 2) := by
  induction rest generalizing done i width with
  | nil => exact absurd rfl hne
  | cons c rest' ih =>
    subst hi hwid
    have hc := (UEnv.sane_cons_bounds (UEnv.sane_append.mp (hs ▸ hsane)).2).1
    have hpiece : (s.take (s0 ++ done).length).drop s0.length = done := by rw [hs, List.take_left, List.drop_left]
    unfold requestLoop
    simp only [wcswidth_single hc.1]
    by_cases h1 : colWidth u done + u.wcwidth c > m
    · rw [if_pos h1, hpiece]
      by_cases h2 : colWidth u done < m
      · -- the two assertions: one column is left and the character has two
        have ⟨e1, e2⟩ : colWidth u done + 1 = m ∧ u.wcwidth c = 2 := by omega
        rw [if_pos h2, if_neg (not_not_intro e1), if_neg (not_not_intro e2)]
        exact ⟨_, [], [' '], c :: rest', by simp, rfl, Int.le_of_eq e1,
          Or.inr ⟨rfl, by simp, e1, c, rest', rfl, e2⟩⟩
      · rw [if_neg h2]
        have e : colWidth u done = m := by omega
        exact ⟨_, [], [], c :: rest', by simp, rfl, Int.le_of_eq e,
          Or.inl ⟨rfl, by simp, fun _ => by omega, fun _ => e⟩⟩
    · rw [if_neg h1]
      have hwid' : colWidth u done + u.wcwidth c = colWidth u (done ++ [c]) := by simp
      cases rest' with
      | nil =>
        have hlen : (s0 ++ done).length + 1 = s.length := by rw [hs]; simp [Nat.add_assoc]
        rw [if_pos hlen, hlen, List.take_length]
        refine ⟨_, [c], [], [], ?_, rfl, by omega, Or.inl ⟨rfl, hwid', fun h => by simp at h, fun h => absurd rfl h⟩⟩
        rw [hwid', hs, List.append_assoc, List.drop_left]; simp
      | cons d rest'' =>
        rw [if_neg (by rw [hs]; simp; omega)]
        obtain ⟨w, taken, pad, remaining, hreq, hrest, hle, hcase⟩ :=
          ih (done ++ [c]) ((s0 ++ done).length + 1) (colWidth u done + u.wcwidth c) (by rw [hs]; simp)
            (by simp; omega) hwid' (by simp) (by omega)
        simp only [List.append_assoc, List.singleton_append] at hreq hcase
        refine ⟨w, c :: taken, pad, remaining, hreq, by rw [hrest]; rfl, hle, ?_⟩
        rcases hcase with ⟨e1, e2, _, e3⟩ | h
        · exact Or.inl ⟨e1, e2, fun h => by simp at h, e3⟩
        · exact Or.inr h

/-- `pre`: what earlier requests took of the chunk's text, `r`: what is left. The request hands out either `taken`,
    non-empty and exactly `m` wide unless it is all of `r`, or `taken` one column short of `m` before a double-width
    character, filled up with a space (`pad`); `w` is the width it reports. -/
theorem request_spec (u : UEnv) (sp : Splitter) (m : Int) (pre r : List Char) (hm : 1 ≤ m)
    (hsane : u.sane sp.chunk.s) (hsplit : sp.chunk.s = pre ++ r) (hoff : sp.internalOffset = pre.length)
    (hne : r ≠ []) :
    ∃ w taken pad remaining dw,
      sp.request u m = .ok (some (w, ⟨taken ++ pad, sp.chunk.atts⟩), ⟨sp.chunk, (pre ++ taken).length, dw⟩) ∧
      r = taken ++ remaining ∧ w ≤ m ∧
      (pad = [] ∧ w = colWidth u taken ∧ taken ≠ [] ∧ (remaining ≠ [] → w = m)
       ∨ pad = [' '] ∧ w = colWidth u taken + 1 ∧ w = m ∧ ∃ c rem', remaining = c :: rem' ∧ u.wcwidth c = 2) := by
  obtain ⟨w, taken, pad, remaining, hreq, hrest, hle, hcase⟩ :=
    requestLoop_spec u sp.chunk.s sp.chunk.atts m pre [] r pre.length 0 (by rw [hsplit, List.append_nil])
      (by rw [List.append_nil]) rfl hsane hne (by omega)
  simp only [List.nil_append] at hreq hcase
  refine ⟨w, taken, pad, remaining, sp.internalWidth + colWidth u taken, ?_, hrest, hle, ?_⟩
  · have hlt : pre.length ≠ sp.chunk.s.length := by
      have := List.length_pos_iff.mpr hne
      rw [hsplit, List.length_append]; omega
    have hd : sp.chunk.s.drop pre.length = r := by rw [hsplit, List.drop_left]
    unfold Splitter.request
    rw [hoff, if_neg (by omega), if_neg hlt, hd, hreq]
  · rcases hcase with ⟨e1, e2, e3, e4⟩ | h
    · exact Or.inl ⟨e1, e2, fun h => by have := e3 h; omega, e4⟩
    · exact Or.inr h

private theorem cells_snoc_pad (cur : List Chunk) (s p : Text) (a : Atts) :
    cells (cur ++ [⟨s ++ p, a⟩]) = cells (cur ++ [⟨s, a⟩]) ++ Chunk.cells ⟨p, a⟩ := by
  simp [Chunk.cells]

/-- what `wasplitInner` keeps between requests: the line being filled and its width (`nonempty`: every piece put on it
    has a character, so the final `if chunks_of_line:` yields no empty line) -/
structure LineInv (u : UEnv) (columns : Int) (cur : List Chunk) (wol : Int) : Prop where
  width : wol = cellsWidth u (cells cur)
  nonneg : 0 ≤ wol
  lt : wol < columns
  nonempty : cells cur = [] → cur = []

private theorem LineInv.nil (u : UEnv) {columns : Int} (h : 2 ≤ columns) : LineInv u columns [] 0 :=
  ⟨rfl, Int.le_refl 0, by omega, fun _ => rfl⟩

private theorem LineInv.width_snoc {u : UEnv} {columns wol : Int} {cur : List Chunk} (inv : LineInv u columns cur wol)
    (t : Text) (a : Atts) : cellsWidth u (cells (cur ++ [⟨t, a⟩])) = wol + colWidth u t := by
  rw [cells_append, cellsWidth_append, ← inv.width, cells_cons, cells_nil, List.append_nil, cellsWidth_chunk]

/-- `pre`, `r` as in `request_spec`. Fuel: a request takes at least one character, except a padding request on a line
    already begun, which closes that line - two units per character, one for the last request, one more on a begun
    line. The conclusion is in continuation form (`rest`, `out`). -/
private theorem wasplitInner_spec (u : UEnv) (columns : Int) (hcol : 2 ≤ columns) (fuel : Nat) (sp : Splitter)
    (cur : List Chunk) (wol : Int) (pre r : Text) (hsane : u.sane sp.chunk.s)
    (hsplit : sp.chunk.s = pre ++ r) (hoff : sp.internalOffset = pre.length)
    (inv : LineInv u columns cur wol)
    (hfuel : 2 * r.length + 1 ≤ fuel ∧ (0 < wol → 2 * r.length + 2 ≤ fuel)) :
    ∃ ls cur' wol', wasplitInner u columns fuel sp cur wol = some (.ok (ls, cur', wol')) ∧
      LineInv u columns cur' wol' ∧
      ∀ rest out, Lines u columns (cells cur' ++ rest) out →
        Lines u columns (cells cur ++ (Chunk.cells ⟨r, sp.chunk.atts⟩ ++ rest)) (ls.map cells ++ out) := by
  induction fuel generalizing sp cur wol pre r with
  | zero => omega
  | succ fuel ih =>
    have hw0 := inv.nonneg
    have hw1 := inv.lt
    unfold wasplitInner
    by_cases hr : r = []
    · have : sp.request u (columns - wol) = .ok (none, sp) := by
        unfold Splitter.request
        rw [if_neg (by omega), if_pos (by rw [hoff, hsplit, hr, List.append_nil])]
      rw [this, hr]
      exact ⟨[], cur, wol, rfl, inv, fun rest out h => h⟩
    · obtain ⟨w, taken, pad, remaining, dw, hreq, hdrop, hwm, hcase⟩ :=
        request_spec u sp (columns - wol) pre r (by omega) hsane hsplit hoff hr
      subst hdrop
      have hsplit' : sp.chunk.s = (pre ++ taken) ++ remaining := by rw [hsplit, List.append_assoc]
      have htw : 0 ≤ colWidth u taken :=
        colWidth_nonneg (UEnv.sane_append.mp (UEnv.sane_append.mp (hsplit ▸ hsane)).2).1
      -- fuel for the next round: a request that takes nothing pads a line already begun
      have hf : 2 * remaining.length + 1 ≤ fuel ∧ (taken ≠ [] → 2 * remaining.length + 2 ≤ fuel) := by
        rw [List.length_append] at hfuel
        refine ⟨?_, fun h => by have := List.length_pos_iff.mpr h; omega⟩
        by_cases h0 : taken = []
        · subst h0
          rcases hcase with ⟨_, _, hne, _⟩ | ⟨_, hw, _⟩
          · exact absurd rfl hne
          · have := hfuel.2 (by rw [colWidth_nil] at hw; omega)
            simp at this; omega
        · have := List.length_pos_iff.mpr h0; omega
      clear hfuel
      -- the line with the piece just taken, before padding
      have hseg : ∀ rest, cells cur ++ (Chunk.cells ⟨taken ++ remaining, sp.chunk.atts⟩ ++ rest)
          = cells (cur ++ [⟨taken, sp.chunk.atts⟩]) ++ (Chunk.cells ⟨remaining, sp.chunk.atts⟩ ++ rest) := by
        intro rest; simp [Chunk.cells]
      have hne : taken ≠ [] → cells (cur ++ [⟨taken, sp.chunk.atts⟩]) ≠ [] := by
        intro h; simp [Chunk.cells, h]
      rw [hreq]
      simp only []
      by_cases hfull : wol + w = columns
      · rw [if_pos hfull]
        obtain ⟨ls, cur', wol', hrun, inv', hl⟩ :=
          ih ⟨sp.chunk, _, dw⟩ [] 0 (pre ++ taken) remaining hsane hsplit' rfl (LineInv.nil u hcol)
            ⟨hf.1, fun h => absurd h (Int.lt_irrefl 0)⟩
        rw [hrun]
        refine ⟨_ :: ls, cur', wol', rfl, inv', fun rest out h => ?_⟩
        have := hl rest out h
        rw [cells_nil, List.nil_append] at this
        rw [List.map_cons, List.cons_append, hseg, cells_snoc_pad]
        rcases hcase with ⟨rfl, hw, hnt, _⟩ | ⟨rfl, hw, _, c, rem', rfl, hc⟩
        · rw [show Chunk.cells ⟨[], sp.chunk.atts⟩ = [] from rfl, List.append_nil]
          have e : cellsWidth u (cells (cur ++ [⟨taken, sp.chunk.atts⟩])) = columns := by
            rw [inv.width_snoc]; omega
          exact .line (hne hnt) (Int.le_of_eq e) (fun _ => e) this
        · exact .padded (by rw [inv.width_snoc]; omega) hc this
      · -- a line left open means the chunk is exhausted
        rw [if_neg hfull]
        rcases hcase with ⟨rfl, hw, hnt, hrem⟩ | ⟨_, _, hm, _⟩
        · have hrem : remaining = [] := Decidable.byContradiction fun h => hfull (by have := hrem h; omega)
          subst hrem
          simp only [List.append_nil] at hseg ⊢
          have inv1 : LineInv u columns (cur ++ [⟨taken, sp.chunk.atts⟩]) (wol + w) :=
            { width := by rw [inv.width_snoc, hw]
              nonneg := by omega
              lt := by omega
              nonempty := fun h => absurd h (hne hnt) }
          obtain ⟨ls, cur', wol', hrun, inv', hl⟩ :=
            ih ⟨sp.chunk, _, dw⟩ (cur ++ [⟨taken, sp.chunk.atts⟩]) (wol + w) (pre ++ taken) [] hsane hsplit' rfl inv1
              ⟨hf.1, fun _ => hf.2 hnt⟩
          rw [hrun]
          refine ⟨ls, cur', wol', rfl, inv', fun rest out h => ?_⟩
          rw [hseg]
          exact hl rest out h
        · omega

private theorem wasplitOuter_spec (u : UEnv) (columns : Int) (hcol : 2 ≤ columns) (chunks cur : List Chunk)
    (wol : Int) (hsane : u.sane (text chunks)) (inv : LineInv u columns cur wol) :
    ∃ lines, wasplitOuter u columns chunks cur wol = some (.ok lines) ∧
      Lines u columns (cells cur ++ cells chunks) (lines.map cells) := by
  induction chunks generalizing cur wol with
  | nil =>
    unfold wasplitOuter
    by_cases he : cur.isEmpty
    · rw [if_pos he, List.isEmpty_iff.mp he]
      exact ⟨[], rfl, Lines.nil⟩
    · rw [if_neg he]
      refine ⟨[cur], rfl, ?_⟩
      have hne : cells cur ≠ [] := fun h => he (by rw [inv.nonempty h]; rfl)
      rw [cells_nil]
      exact .line hne (inv.width ▸ Int.le_of_lt inv.lt) (fun h => absurd rfl h) .nil
  | cons c rest ih =>
    rw [text_cons] at hsane
    have ⟨h1, h2⟩ := UEnv.sane_append.mp hsane
    obtain ⟨ls, cur', wol', hrun, inv', hl⟩ :=
      wasplitInner_spec u columns hcol (2 * c.s.length + 2) (Splitter.reinit c) cur wol [] c.s h1 rfl rfl inv
        ⟨by omega, fun _ => by omega⟩
    obtain ⟨lines, hlines, hrel⟩ := ih cur' wol' h2 inv'
    unfold wasplitOuter
    rw [hrun]
    simp only [hlines]
    refine ⟨ls ++ lines, rfl, ?_⟩
    rw [List.map_append, cells_cons]
    exact hl (cells rest) (lines.map cells) hrel

/-- Main theorem: for `columns ≥ 2` and characters of width 0/1/2 the splitter terminates, raises nothing, and
    cuts the cells of `f` into lines as `Lines` describes. -/
theorem C11_wrap (u : UEnv) (f : FmtStr) (columns : Int) (hcol : 2 ≤ columns) (hs : u.sane (text f)) :
    ∃ lines, widthAwareSplitlines u f columns = some (.ok lines) ∧
      Lines u columns (cells f) (lines.map cells) := by
  unfold widthAwareSplitlines
  rw [if_neg (by omega), if_neg (wcswidth_ne_neg_one hs)]
  cases f with
  | nil => exact ⟨[], rfl, Lines.nil⟩
  | cons c rest =>
    obtain ⟨lines, h1, h2⟩ := wasplitOuter_spec u columns hcol (c :: rest) [] 0 hs (LineInv.nil u hcol)
    exact ⟨lines, h1, by simpa using h2⟩

theorem Lines.nil_out {u : UEnv} {columns : Int} {l : List Cell} {out : List (List Cell)}
    (h : Lines u columns l out) (hl : l = []) : out = [] := by
  cases h with
  | nil => rfl
  | line h1 _ _ _ => exact absurd (List.append_eq_nil_iff.mp hl).1 h1
  | padded _ _ _ => simp at hl

private theorem forall_mem_dropLast_cons {α} {P : α → Prop} {y : α} {out : List α} (hy : out ≠ [] → P y)
    (h : ∀ x ∈ out.dropLast, P x) : ∀ x ∈ (y :: out).dropLast, P x := by
  cases out with
  | nil => exact fun _ hx => nomatch hx
  | cons z zs => exact List.forall_mem_cons.mpr ⟨hy (List.cons_ne_nil z zs), h⟩

theorem Lines.bounds {u : UEnv} {columns : Int} {l : List Cell} {out : List (List Cell)}
    (h : Lines u columns l out) (hsp : u.wcwidth ' ' = 1) :
    (∀ x ∈ out, x ≠ [] ∧ cellsWidth u x ≤ columns) ∧ (∀ x ∈ out.dropLast, cellsWidth u x = columns) := by
  induction h with
  | nil => simp
  | @line seg rest out h1 h2 h3 hrest ih =>
    exact ⟨List.forall_mem_cons.mpr ⟨⟨h1, h2⟩, ih.1⟩,
      forall_mem_dropLast_cons (fun ho => h3 (mt hrest.nil_out ho)) ih.2⟩
  | @padded seg rest c a out h1 h2 hrest ih =>
    have hw : cellsWidth u (seg ++ [(' ', a)]) = columns := by simp [hsp]; omega
    exact ⟨List.forall_mem_cons.mpr ⟨⟨by simp, by omega⟩, ih.1⟩, forall_mem_dropLast_cons (fun _ => hw) ih.2⟩

theorem Lines.sublist {u : UEnv} {columns : Int} {l : List Cell} {out : List (List Cell)}
    (h : Lines u columns l out) : List.Sublist l out.flatten := by
  induction h with
  | nil => simp
  | line _ _ _ _ ih =>
    simp only [List.flatten_cons]
    exact List.Sublist.append (List.Sublist.refl _) ih
  | padded _ _ _ ih =>
    simp only [List.flatten_cons, List.append_assoc]
    exact List.Sublist.append (List.Sublist.refl _) (List.Sublist.cons _ ih)

theorem Lines.sane_out {u : UEnv} {columns : Int} {l : List Cell} {out : List (List Cell)}
    (h : Lines u columns l out) (hs : u.sane (l.map Prod.fst)) (hsp : u.wcwidth ' ' = 1) :
    ∀ x ∈ out, u.sane (x.map Prod.fst) := by
  induction h with
  | nil => simp
  | line _ _ _ _ ih =>
    rw [List.map_append] at hs
    have ⟨a1, a2⟩ := UEnv.sane_append.mp hs
    exact List.forall_mem_cons.mpr ⟨a1, ih a2⟩
  | padded _ _ _ ih =>
    rw [List.map_append] at hs
    have ⟨a1, a2⟩ := UEnv.sane_append.mp hs
    refine List.forall_mem_cons.mpr ⟨?_, ih a2⟩
    rw [List.map_append]
    exact UEnv.sane_append.mpr ⟨a1, fun c hc => List.mem_singleton.mp hc ▸ Or.inr (Or.inl hsp)⟩

/-- No line is empty, none is wider than `columns`, every line but the last is exactly `columns` wide. -/
theorem C11_line_bounds (u : UEnv) (f : FmtStr) (columns : Int) (hcol : 2 ≤ columns) (hs : u.sane (text f))
    (hsp : u.wcwidth ' ' = 1) :
    ∃ lines, widthAwareSplitlines u f columns = some (.ok lines) ∧
      (∀ l ∈ lines, 0 < len l ∧ cellsWidth u (cells l) ≤ columns) ∧
      (∀ l ∈ lines.dropLast, cellsWidth u (cells l) = columns) := by
  obtain ⟨lines, h1, h2⟩ := C11_wrap u f columns hcol hs
  have hb := h2.bounds hsp
  refine ⟨lines, h1, ?_, ?_⟩
  · intro l hl
    have := hb.1 (cells l) (List.mem_map_of_mem hl)
    exact ⟨cells_length l ▸ List.length_pos_iff.mpr this.1, this.2⟩
  · intro l hl
    exact hb.2 _ (List.map_dropLast ▸ List.mem_map_of_mem hl)

/-- The same bounds through the library's own `.width` of each line (which does not raise). -/
theorem C11_line_width (u : UEnv) (f : FmtStr) (columns : Int) (hcol : 2 ≤ columns) (hs : u.sane (text f))
    (hsp : u.wcwidth ' ' = 1) :
    ∃ lines, widthAwareSplitlines u f columns = some (.ok lines) ∧
      (∀ l ∈ lines, ∃ w, fmtWidth u l = .ok w ∧ w ≤ columns) ∧
      (∀ l ∈ lines.dropLast, fmtWidth u l = .ok columns) := by
  obtain ⟨lines, h1, h2⟩ := C11_wrap u f columns hcol hs
  have hb := h2.bounds hsp
  have hso := h2.sane_out (sane_cells_fst.mpr hs) hsp
  have hwid : ∀ l ∈ lines, fmtWidth u l = .ok (cellsWidth u (cells l)) := by
    intro l hl
    rw [fmtWidth_eq (sane_cells_fst.mp (hso (cells l) (List.mem_map_of_mem hl))), cellsWidth_cells]
  refine ⟨lines, h1, ?_, ?_⟩
  · intro l hl
    exact ⟨_, hwid l hl, (hb.1 (cells l) (List.mem_map_of_mem hl)).2⟩
  · intro l hl
    rw [hwid l (List.dropLast_subset lines hl), hb.2 _ (List.map_dropLast ▸ List.mem_map_of_mem hl)]

/-- Nothing is lost or reordered: the cells of `f` (characters with their formatting) are a subsequence of the
    concatenated lines (the only extra cells are the padding spaces, by `Lines`). -/
theorem C11_nothing_lost (u : UEnv) (f : FmtStr) (columns : Int) (hcol : 2 ≤ columns) (hs : u.sane (text f)) :
    ∃ lines, widthAwareSplitlines u f columns = some (.ok lines) ∧
      List.Sublist (cells f) (lines.flatMap cells) := by
  obtain ⟨lines, h1, h2⟩ := C11_wrap u f columns hcol hs
  exact ⟨lines, h1, List.flatMap_def ▸ h2.sublist⟩

/-- `columns < 2` raises ValueError. -/
theorem C11_guard_columns (u : UEnv) (f : FmtStr) (columns : Int) (h : columns < 2) :
    widthAwareSplitlines u f columns = some (.error .valueError) := by
  simp [widthAwareSplitlines, h]

/-- `FmtStr()` without runs gives no lines. -/
theorem C11_empty (u : UEnv) (columns : Int) (h : 2 ≤ columns) :
    widthAwareSplitlines u [] columns = some (.ok []) := by
  unfold widthAwareSplitlines
  rw [if_neg (by omega), if_neg (by simp [text, wcswidth, wcswidthLoop])]
  rfl

/-- A character of negative width (cwcwidth's -1 for control characters) raises ValueError. -/
theorem C11_guard_width (u : UEnv) (f : FmtStr) (columns : Int) (h : ∃ c ∈ text f, u.wcwidth c < 0) :
    widthAwareSplitlines u f columns = some (.error .valueError) := by
  unfold widthAwareSplitlines
  by_cases hc : columns < 2
  · rw [if_pos hc]
  · rw [if_neg hc, if_pos (by simp [wcswidth, wcswidthLoop_neg u _ 0 h])]

/-! ### non-vacuity: wide character pushed to the next line with a padding space in ITS formatting; a combining
    character in a new run after a full line opens the next line; an empty run in the middle -/

example : exEnv.sane (text exF) ∧ exEnv.wcwidth ' ' = 1 := exF_sane_and_space

example : (match widthAwareSplitlines exEnv exF 2 with
    | some (.ok ls) => ls == [[⟨['a', ' '], {fg := some 1}⟩], [⟨['Ｅ'], {fg := some 1}⟩],
                              [⟨['́', 'Ｅ'], {bold := some true}⟩], [⟨['b'], {bold := some true}⟩]]
    | _ => false) = true := by decide +kernel

example : (match widthAwareSplitlines exEnv exF 3 with
    | some (.ok ls) => ls == [[⟨['a', 'Ｅ'], {fg := some 1}⟩], [⟨['́', 'Ｅ', 'b'], {bold := some true}⟩]]
    | _ => false) = true := by decide +kernel

end Curtsies
