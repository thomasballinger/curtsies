/-
  C13 - FmtStr values are immutable and their memoised views never go stale.

  Model: Model/Heap.lean. FmtStr objects, their run lists (MUTABLE Python lists) and run objects live in a
  heap; every public operation is a command over the primitives (allocate, read, `list.extend/append`,
  `del list[:]`, write one memo field) following the code's allocations and aliasing. `runOp u op h` is
  the PLAIN semantics the driver executes and the harness ties to the real code: in it `listExtend`,
  `listClear` work on any list object and a memo write stores any value (`C13_primitives_can_break`), so the
  theorems are about what the operations DO, not about what the interpreter allows.
  The operation `Op.add a b` (written `.add a b`) runs the command `Heap.add a b`, on references (`opCmd`);
  `Curtsies.add`, on run lists, is the value-level function of Model/FmtStr.lean with which `C13_add_refines`
  compares the result. Likewise `splice`, `join`, `getitem`, `widthAwareSlice` (Model/Width.lean) and the rest.

  `h.value r` is the list of runs `(text, attribute dict)` read through `r.chunks`, ignoring all memo fields.
  Text, length, width, terminal string, repr and per-character formatting are functions of it (`text`, `len`,
  `fmtWidth u`, `render`, `reprAst`, `cells`), so one statement about `value` covers them all
  (`C13_frame_views`). Width depends on cwcwidth: everything is proved for every `u : UEnv`.

  Invariant `Inv u h` between operations (`WF`, `CacheOK`). The empty heap satisfies it and every operation
  preserves it, so it holds in every reachable heap. It is `Good u [] h` of Proofs/HeapInterp.lean (`good_of_inv`,
  `inv_of_good`) as a condition on the heap alone, which the harness can observe between operations. `Good`, which
  the proofs carry, also lists the unpublished lists a running command owns and states the memo condition as the
  interpreter checks it (`freshUni` …).

  Outside the model: `splice` with `end < start` (the code slices runs with negative offsets there; the
  operation answers `Res.outside` without touching the heap, the driver refuses it, the harness judges such
  calls by the oracle alone), a `width_aware_splitlines` generator consumed lazily between other
  operations (oracle only), attribute-dict method names outside the regenerated `Generated.dictMutators`,
  and a `str` operand of `fmtstr`/`splice`/`append`/`join` that contains `ESC [`: `fmtstr(s)` parses the escape
  sequences of such a string into formatted runs (`FmtStr.from_str`, formatstring.py:318), while `fmtstrOfStr`
  makes ANY text one unformatted run. The theorems about `Op.fmtstrOf` and `Arg.str` operands (`argVal`) are
  stated for every text and describe the code on ESC-free texts only (ASSUMPTIONS of harness/props/c13.py).
  `==` and `hash()` are operations (`Op.eq`, `Op.hash`): they fill `_unicode` of their operands.

  Data taken as given by an operation (and universally quantified here): the split positions of
  `split`/`splitlines`, the result strings of delegated `str` methods, `shared_atts`, the pieces the
  ChunkSplitter cuts for `width_aware_splitlines`.

  Attribute dicts: every in-place method of `FrozenAttributes` raises, `__init__` on an initialised instance
  included (formatstring.py:77-81; finding D24: it could be called again and changed a run's dict in place, now
  repaired). The model's `attsMutate` answers `.err` whatever the method, and `C13_guards_table` decides that the
  live class lets NO mutator through. `C13_inplace_atts_would_break` shows what an in-place change of a run's dict
  WOULD do (primitive `setAtts`), which is why no operation may make one.
-/
import Curtsies.Proofs.Heap
import Curtsies.Generated.Heap
namespace Curtsies.Heap
open Curtsies

/-- every reference stored in the heap points to an existing object -/
structure WF (h : Heap) : Prop where
  fmtList : ∀ (r : Nat) (f : FmtObj), h.fmts[r]? = some f → f.chunks < h.lists.length
  listElems : ∀ (l : Nat) (cs : List Nat), h.lists[l]? = some cs → ∀ c, c ∈ cs → c < h.chunks.length

/-- each memo field is `none` or equals the freshly computed view -/
structure CacheOK (u : UEnv) (h : Heap) : Prop where
  colorStr : ∀ (c : Nat) (x : ChunkObj), h.chunks[c]? = some x → ∀ v, x.colorStr = some v → v = Chunk.colorStr ⟨x.s, x.atts⟩
  fmt : ∀ (r : Nat) (f : FmtObj) (v : FmtStr), h.fmts[r]? = some f → h.value r = some v →
    (∀ x, f.uni = some x → x = render v) ∧ (∀ n, f.len = some n → n = len v) ∧
    (∀ x, f.s = some x → x = text v) ∧ (∀ w, f.width = some w → fmtWidth u v = .ok w)

def Inv (u : UEnv) (h : Heap) : Prop := WF h ∧ CacheOK u h

theorem WF.value_some {h : Heap} (w : WF h) {r : Nat} (hr : r < h.fmts.length) : ∃ v, h.value r = some v :=
  value_some_of w.fmtList w.listElems hr

private theorem good_of_inv {u : UEnv} {h : Heap} (hI : Inv u h) : Good u [] h := by
  obtain ⟨w, c⟩ := hI
  refine ⟨w.fmtList, w.listElems, (fun l hl => by cases hl), c.colorStr, fun r f hf => ?_⟩
  obtain ⟨v, hv⟩ := w.value_some (List.getElem?_eq_some_iff.mp hf).1
  simpa only [freshUni_iff hv, freshLen_iff hv, freshS_iff hv, freshWidth_iff hv] using c.fmt r f v hf hv

private theorem inv_of_good {u : UEnv} {o : List Nat} {h : Heap} (g : Good u o h) : Inv u h := by
  refine ⟨⟨g.fmtList, g.listElems⟩, ⟨g.chunkMemo, fun r f v hf hv => ?_⟩⟩
  simpa only [freshUni_iff hv, freshLen_iff hv, freshS_iff hv, freshWidth_iff hv] using g.fmtMemo r f hf

/-- from a triple for an operation's command to the plain semantics -/
theorem runOp_of_ok {u : UEnv} {h : Heap} {op : Op} {R : Res → List Nat → Heap → Prop} (hI : Inv u h)
    (hk : Passes u (opCmd u op) [] h R) :
    ∃ res h' o', runOp u op h = some (res, h') ∧ Inv u h' ∧ R res o' h' ∧
      ∀ r, r < h.fmts.length → r < h'.fmts.length ∧ h'.value r = h.value r := by
  have g := good_of_inv hI
  obtain ⟨res, o', h', e, g', p, hr⟩ := hk g
  exact ⟨res, h', o', by simp [runOp, run, interp_unchecked _ [] h _ e], inv_of_good g', hr,
    fun r hr => ⟨p.fmt_lt hr, p.value g hr⟩⟩

/-- `runOp_of_ok` for an operation whose command is some `c` with its result wrapped by `f`. -/
private theorem runOp_of_map {u : UEnv} {h : Heap} {op : Op} {α : Type} {c : Cmd α} {f : α → Res} {R : α → Heap → Prop}
    (hop : opCmd u op = c >>= fun x => Pure.pure (f x)) (hI : Inv u h) (hc : Passes u c [] h fun x _ h' => R x h') :
    ∃ x h', runOp u op h = some (f x, h') ∧ R x h' := by
  obtain ⟨_, h', _, e, _, ⟨x, rfl, hx⟩, _⟩ := runOp_of_ok (op := op) hI (hop ▸ Passes.map f hc)
  exact ⟨x, h', e, hx⟩

/-- `Refines` read through `Res.ofExcept`, in the form `C13_getitem_refines` and `C13_wslice_refines` state it -/
theorem Refines.res {h : Heap} {X : Except PyErr FmtStr} {res : Except PyErr Nat} (hres : Refines h X res) :
    match (generalizing := false) X with
    | .error e => Res.ofExcept res = .err e
    | .ok w => ∃ r, Res.ofExcept res = .refs [r] ∧ h.value r = some w := by
  cases X with
  | error e =>
    cases (hres : res = .error e)
    rfl
  | ok w =>
    obtain ⟨r, rfl, hr⟩ := hres
    exact ⟨r, rfl, hr⟩

/-- A program is well-scoped when each operation's operands exist when it runs. -/
def Scoped (u : UEnv) : List Op → Heap → Prop
  | [], _ => True
  | op :: rest, h => opLive h op ∧ ∀ res h', runOp u op h = some (res, h') → Scoped u rest h'

private theorem scoped_append {u : UEnv} (p1 p2 : List Op) : ∀ (h : Heap), Scoped u (p1 ++ p2) h →
    Scoped u p1 h ∧ ∀ rs h1, runProg u p1 h = some (rs, h1) → Scoped u p2 h1 := by
  induction p1 with
  | nil =>
    intro h hs
    refine ⟨trivial, fun rs h1 e => ?_⟩
    cases e
    exact hs
  | cons op rest ih =>
    intro h ⟨hl, hrest⟩
    refine ⟨⟨hl, fun res h' e => (ih h' (hrest res h' e)).1⟩, fun rs h1 e => ?_⟩
    simp only [runProg] at e
    split at e
    · cases e
    · rename_i res h' e1
      split at e
      · cases e
      · rename_i rs' h'' e2
        cases e
        exact (ih h' (hrest res h' e1)).2 _ _ e2

def opLiveB (h : Heap) (op : Op) : Bool := (opRefs op).all (· < h.fmts.length)
def scopedB (u : UEnv) : List Op → Heap → Bool
  | [], _ => true
  | op :: rest, h => opLiveB h op &&
    (match runOp u op h with
     | some (_, h') => scopedB u rest h'
     | none => true)

theorem scoped_of_scopedB (u : UEnv) (p : List Op) : ∀ (h : Heap), scopedB u p h = true → Scoped u p h := by
  induction p with
  | nil => exact fun _ _ => trivial
  | cons op rest ih =>
    intro h hb
    simp only [scopedB, Bool.and_eq_true] at hb
    obtain ⟨hlive, hrest⟩ := hb
    refine ⟨fun r hm => ?_, fun res h' e => ?_⟩
    · simp only [opLiveB, List.all_eq_true, decide_eq_true_eq] at hlive
      exact hlive r hm
    · rw [e] at hrest
      exact ih h' hrest

end Curtsies.Heap

namespace Curtsies
open Curtsies.Heap

theorem C13_inv_empty (u : UEnv) : Inv u {} :=
  ⟨⟨fun r f hf => by simp at hf, fun l cs hl => by simp at hl⟩,
   ⟨fun c x hx => by simp at hx, fun r f v hf => by simp at hf⟩⟩

/-- FRAME. On every heap satisfying the invariant, every public operation whose operands exist runs,
    returns existing objects, keeps the invariant, and EVERY FmtStr object that existed before it -
    operands, earlier results, values no longer referenced - still exists and has the same value afterwards. -/
theorem C13_frame (u : UEnv) (h : Heap) (op : Op) (hI : Inv u h) (hl : opLive h op) :
    ∃ res h', runOp u op h = some (res, h') ∧ Inv u h' ∧ resLive h' res ∧
      ∀ r, r < h.fmts.length → r < h'.fmts.length ∧ h'.value r = h.value r := by
  obtain ⟨res, h', _, e, hI', hr, hv⟩ := runOp_of_ok hI (opCmd_ok op hl)
  exact ⟨res, h', e, hI', hr, hv⟩

/-- Every view of an existing object is unchanged by an operation: per-character formatting, terminal
    string, length, text, width under any cwcwidth, and any other function of the runs (repr). -/
theorem C13_frame_views (u : UEnv) (h : Heap) (op : Op) (hI : Inv u h) (hl : opLive h op)
    (res : Res) (h' : Heap) (e : runOp u op h = some (res, h')) (r : Nat) (hr : r < h.fmts.length) :
    (h'.value r).map cells = (h.value r).map cells ∧ (h'.value r).map render = (h.value r).map render ∧
    (h'.value r).map len = (h.value r).map len ∧ (h'.value r).map text = (h.value r).map text ∧
    (h'.value r).map (fmtWidth u) = (h.value r).map (fmtWidth u) ∧
    ∀ (β : Type) (view : FmtStr → β), (h'.value r).map view = (h.value r).map view := by
  obtain ⟨res2, h2, e2, _, _, hv⟩ := C13_frame u h op hI hl
  rw [e] at e2
  cases e2
  have hval : h'.value r = h.value r := (hv r hr).2
  simp [hval]

/-- FRAME, programs. Every well-scoped straight-line program (observations are operations and may
    stand anywhere) runs to the end, the invariant holds again, and every object that existed before
    the program has the same value after it. -/
theorem C13_frame_program (u : UEnv) (p : List Op) : ∀ (h : Heap), Inv u h → Scoped u p h →
    ∃ rs h', runProg u p h = some (rs, h') ∧ Inv u h' ∧
      ∀ r, r < h.fmts.length → r < h'.fmts.length ∧ h'.value r = h.value r := by
  induction p with
  | nil => exact fun h hI _ => ⟨[], h, rfl, hI, fun r hr => ⟨hr, rfl⟩⟩
  | cons op rest ih =>
    intro h hI hs
    obtain ⟨hl, hrest⟩ := hs
    obtain ⟨res, h1, e1, hI1, _, hv1⟩ := C13_frame u h op hI hl
    obtain ⟨rs, h2, e2, hI2, hv2⟩ := ih h1 hI1 (hrest res h1 e1)
    refine ⟨res :: rs, h2, by simp [runProg, e1, e2], hI2, ?_⟩
    intro r hr
    have a := hv1 r hr
    have b := hv2 r a.1
    exact ⟨b.1, b.2.trans a.2⟩

/-- FRAME at every position of a program: cut a well-scoped program anywhere; every object existing at
    the cut - whatever observations filled its caches before or fill them after - has the same value
    at the end. -/
theorem C13_frame_program_split (u : UEnv) (p1 p2 : List Op) (h : Heap) (hI : Inv u h) (hs : Scoped u (p1 ++ p2) h) :
    ∃ rs1 h1 rs2 h2, runProg u p1 h = some (rs1, h1) ∧ runProg u p2 h1 = some (rs2, h2) ∧ Inv u h1 ∧ Inv u h2 ∧
      ∀ r, r < h1.fmts.length → r < h2.fmts.length ∧ h2.value r = h1.value r := by
  obtain ⟨s1, s2⟩ := scoped_append p1 p2 h hs
  obtain ⟨rs1, h1, e1, hI1, _⟩ := C13_frame_program u p1 h hI s1
  obtain ⟨rs2, h2, e2, hI2, hv⟩ := C13_frame_program u p2 h1 hI1 (s2 rs1 h1 e1)
  exact ⟨rs1, h1, rs2, h2, e1, e2, hI1, hI2, hv⟩

/-- CACHE. Every operation preserves "each memo field (`_unicode`, `_len`, `_s`, `_width` of every
    FmtStr object, `color_str` of every run object) is unset or equals the freshly computed view". -/
theorem C13_cache (u : UEnv) (h : Heap) (op : Op) (hI : Inv u h) (hl : opLive h op) :
    ∃ res h', runOp u op h = some (res, h') ∧ CacheOK u h' := by
  obtain ⟨res, h', e, hI', _⟩ := C13_frame u h op hI hl
  exact ⟨res, h', e, hI'.2⟩

/-- CACHE, observations: `str(f)`, `len(f)`, `f.s`, `f.width` return the freshly computed views of `f`'s
    value, whatever the state of the memo fields (and `f.width` raises exactly when a fresh computation
    raises). -/
theorem C13_cache_observations (u : UEnv) (h : Heap) (a : Nat) (v : FmtStr) (hI : Inv u h) (ha : a < h.fmts.length)
    (hv : h.value a = some v) :
    (∃ h', runOp u (.obsStr a) h = some (.text (render v), h')) ∧
    (∃ h', runOp u (.obsLen a) h = some (.int (len v), h')) ∧
    (∃ h', runOp u (.obsS a) h = some (.text (text v), h')) ∧
    (∃ h', runOp u (.obsWidth a) h = some ((match fmtWidth u v with | .ok w => Res.int w | .error e => Res.err e), h')) := by
  refine ⟨?_, ?_, ?_, ?_⟩
  · obtain ⟨_, h', e, rfl⟩ := runOp_of_map (op := .obsStr a) rfl hI (obsStr_val hv)
    exact ⟨h', e⟩
  · obtain ⟨_, h', e, rfl⟩ := runOp_of_map (op := .obsLen a) rfl hI (obsLen_val hv)
    exact ⟨h', e⟩
  · obtain ⟨_, h', e, rfl⟩ := runOp_of_map (op := .obsS a) rfl hI (obsS_val hv)
    exact ⟨h', e⟩
  · -- `opCmd` has the `pure` inside the `match`
    have hop : opCmd u (.obsWidth a) = obsWidth u a >>= fun x =>
        Pure.pure (match x with | .ok w => Res.int w | .error e => Res.err e) :=
      congrArg (obsWidth u a >>= ·) (funext fun | .ok _ => rfl | .error _ => rfl)
    obtain ⟨_, h', e, rfl⟩ := runOp_of_map hop hI (obsWidth_val hv)
    exact ⟨h', e⟩

/-! ### the heap operations return the values of the value-level models

  The liveness hypotheses of these theorems and of `C13_cache_observations` (`ha`, `hb`, `hn`, `hs`, `hlive`)
  follow from the value hypotheses (`value_lt`) and are not used. -/

/-- Slicing/indexing on the heap returns what the value-level `getitem` (the model of the C06 theorems)
    computes from the operand's value: the same error, or an object holding exactly that value. -/
theorem C13_getitem_refines (u : UEnv) (h : Heap) (a : Nat) (v : FmtStr) (idx : Index) (hI : Inv u h)
    (ha : a < h.fmts.length) (hv : h.value a = some v) :
    ∃ res h', runOp u (.getitem a idx) h = some (res, h') ∧
      match Curtsies.getitem v idx with
      | .error e => res = .err e
      | .ok w => ∃ r, res = .refs [r] ∧ h'.value r = some w := by
  obtain ⟨_, h', e, hx⟩ := runOp_of_map (op := .getitem a idx) rfl hI (getitem_val hv idx)
  exact ⟨_, h', e, hx.res⟩

/-- `a.splice(new, start, end)` (start ≤ end, ESC-free `str` operand) returns an object whose value is the
    value-level `splice` of the operands' values - the function the C09 theorems are about. -/
theorem C13_splice_refines (u : UEnv) (h : Heap) (a : Nat) (new : Arg) (start : Nat) (end_ : Option Nat) (v w : FmtStr)
    (hI : Inv u h) (ha : a < h.fmts.length) (hn : argLive h new) (hv : h.value a = some v) (hw : argVal h new = some w)
    (hse : ¬ end_.getD start < start) :
    ∃ r h', runOp u (.splice a new start end_) h = some (.refs [r], h') ∧
      h'.value r = some (Curtsies.splice v w start end_) :=
  runOp_of_map (if_neg hse) hI (splice_val hv hw start end_)

theorem C13_append_refines (u : UEnv) (h : Heap) (a : Nat) (new : Arg) (v w : FmtStr)
    (hI : Inv u h) (ha : a < h.fmts.length) (hn : argLive h new) (hv : h.value a = some v) (hw : argVal h new = some w) :
    ∃ r h', runOp u (.append a new) h = some (.refs [r], h') ∧ h'.value r = some (Curtsies.append v w) :=
  runOp_of_map rfl hI (append_val hv hw)

/-- `a + b`, `a + "str"`, `"str" + a`, `a * n` (also `n * a`): the value-level functions of C06. -/
theorem C13_add_refines (u : UEnv) (h : Heap) (a b : Nat) (va vb : FmtStr) (hI : Inv u h) (ha : a < h.fmts.length)
    (hb : b < h.fmts.length) (hva : h.value a = some va) (hvb : h.value b = some vb) :
    ∃ r h', runOp u (.add a b) h = some (.refs [r], h') ∧ h'.value r = some (Curtsies.add va vb) :=
  runOp_of_map rfl hI (add_val hva hvb)

theorem C13_addStr_refines (u : UEnv) (h : Heap) (a : Nat) (t : Text) (va : FmtStr) (hI : Inv u h) (ha : a < h.fmts.length)
    (hva : h.value a = some va) :
    (∃ r h', runOp u (.addStr a t) h = some (.refs [r], h') ∧ h'.value r = some (Curtsies.addStr va t)) ∧
    (∃ r h', runOp u (.raddStr a t) h = some (.refs [r], h') ∧ h'.value r = some (Curtsies.raddStr va t)) :=
  ⟨runOp_of_map rfl hI (addStr_val hva t), runOp_of_map rfl hI (raddStr_val hva t)⟩

theorem C13_mul_refines (u : UEnv) (h : Heap) (a : Nat) (n : Int) (va : FmtStr) (hI : Inv u h) (ha : a < h.fmts.length)
    (hva : h.value a = some va) :
    ∃ r h', runOp u (.mul a n) h = some (.refs [r], h') ∧ h'.value r = some (Curtsies.mul va n) :=
  runOp_of_map rfl hI (mul_val hva n)

/-- `sep.join(items)`: items are FmtStr objects or ESC-free `str`s (`argVal`); `ws` are their values. -/
theorem C13_join_refines (u : UEnv) (h : Heap) (sep : Nat) (items : List Arg) (vsep : FmtStr) (ws : List FmtStr)
    (hI : Inv u h) (hs : sep < h.fmts.length) (hvs : h.value sep = some vsep) (hlive : ∀ x, x ∈ items → argLive h x)
    (hws : items.map (argVal h) = ws.map some) :
    ∃ r h', runOp u (.join sep items) h = some (.refs [r], h') ∧ h'.value r = some (Curtsies.join vsep ws) :=
  runOp_of_map rfl hI (join_val hvs hws)

/-- `a.width_aware_slice(idx)`: the value-level `widthAwareSlice` of Model/Width.lean (C10), as for `getitem`. -/
theorem C13_wslice_refines (u : UEnv) (h : Heap) (a : Nat) (v : FmtStr) (idx : Index) (hI : Inv u h)
    (ha : a < h.fmts.length) (hv : h.value a = some v) :
    ∃ res h', runOp u (.wslice a idx) h = some (res, h') ∧
      match Curtsies.widthAwareSlice u v idx with
      | .error e => res = .err e
      | .ok w => ∃ r, res = .refs [r] ∧ h'.value r = some w := by
  obtain ⟨_, h', e, hx⟩ := runOp_of_map (op := .wslice a idx) rfl hI (widthAwareSlice_val hv idx)
  exact ⟨_, h', e, hx.res⟩

/-! ### C13_guards

  These statements only RECORD how the model reads formatstring.py:77-93 and 730-731 (`opCmd` answers
  `.err` for `setitem` and for the mutator names): they are immediate from the model's definition and
  carry no weight. That the REAL `f[i] = x` and the real attribute-dict methods raise and
  leave `str(f)` unchanged is established on every run by the tie (guard steps inside the programs) and by
  the guard oracle, which enumerates `dir(dict)` semantically; `C13_guards_table` (Properties/C13Table.lean)
  connects the two: the names the live `FrozenAttributes` lets through (regenerated) are exactly the ones the model lets
  through. `attsMutate` is an operation of the model only for names in `Generated.dictMutators` (the driver refuses
  others: `get`, `keys`, `copy` … are not mutators). -/

/-- GUARD (model's reading). Item assignment raises and leaves the heap unchanged. -/
theorem C13_guards_setitem (u : UEnv) (h : Heap) (a : Nat) :
    runOp u (.setitem a) h = some (.err .otherException, h) := rfl

/-- GUARD (model's reading). `attsMutate` raises and leaves the heap unchanged WHATEVER the method name: the
    model does not look at it, and `_hm` is not used (`__init__` on the initialised dict is among the names,
    `C13_guards_init_listed`). -/
theorem C13_guards (u : UEnv) (h : Heap) (a k : Nat) (name : String) (_hm : name ∈ Generated.dictMutators) :
    runOp u (.attsMutate a k name) h = some (.err .otherException, h) := rfl

theorem C13_guards_init_listed : "__init__" ∈ Generated.dictMutators := by decide

private def u0 : UEnv := ⟨fun _ => 1, fun _ => false⟩
private def redBold : Atts := { fg := some 1, bold := some true }
private def redNotBold : Atts := { fg := some 1, bold := some false }

/-- `f = FmtStr(Chunk('a', {'fg': 31, 'bold': True})); str(f)` -/
private def wProg : List Op := [.lit [⟨['a'], redBold⟩], .obsStr 0]
private def wRendered : Text := seq 31 ++ (seq 1 ++ ['a'] ++ seq 0) ++ seq 39
private def hW : Heap :=
  ⟨[⟨['a'], redBold, some wRendered⟩], [[0]], [⟨0, some wRendered, none, none, none⟩]⟩
/-- `hW` after an in-place change of the run's attributes to `{'fg': 31, 'bold': False}` -/
private def hW' : Heap :=
  ⟨[⟨['a'], redNotBold, some wRendered⟩], [[0]], [⟨0, some wRendered, none, none, none⟩]⟩

private theorem hW_reached : runProg u0 wProg {} = some ([.refs [0], .text wRendered], hW) := by decide +kernel
private theorem hW_inv : Inv u0 hW := by
  obtain ⟨rs, h', e, hI, _⟩ := C13_frame_program u0 wProg {} (C13_inv_empty u0)
    (scoped_of_scopedB u0 wProg {} (by decide +kernel))
  rw [hW_reached] at e
  cases e
  exact hI

/-- What the guard of `FrozenAttributes.__init__` (formatstring.py:78-79; D24) prevents: on the reachable heap
    `f = bold(red('a')); str(f)`, an in-place change of the run's attribute dict (primitive `setAtts`;
    `atts.__init__({'bold': False})` would be one if it did not raise) runs in the plain semantics, changes the
    value of `f`, leaves the memoised terminal string stale, and is refused by the checked interpreter. -/
theorem C13_inplace_atts_would_break :
    Inv u0 hW ∧ run u0 (Heap.setAtts 0 redNotBold) hW = some ((), hW') ∧
    hW'.value 0 ≠ hW.value 0 ∧ ¬ CacheOK u0 hW' ∧ interp u0 true (Heap.setAtts 0 redNotBold) [] hW = none := by
  refine ⟨hW_inv, by decide +kernel, by decide +kernel, ?_, by decide +kernel⟩
  intro c
  have stale : wRendered = render [⟨['a'], redNotBold⟩] := (c.fmt 0 _ _ rfl (by decide +kernel)).1 wRendered rfl
  exact absurd stale (by decide +kernel)

/-- The primitives are NOT safe by themselves. On the heap holding `f = bold(red('a'))` with `str(f)`
    memoised: extending or clearing the run list `f.chunks` in place changes `f`'s value, and writing a
    memo field with another value breaks the cache invariant. All three run in the plain semantics, and the
    checked interpreter (whose discipline every operation is PROVED to follow, `opCmd_ok`) refuses each. -/
theorem C13_primitives_can_break :
    hW.value 0 = some [⟨['a'], redBold⟩] ∧
    (run u0 (Heap.listExtend 0 [0]) hW).map (fun p => p.2.value 0) = some (some [⟨['a'], redBold⟩, ⟨['a'], redBold⟩]) ∧
    (run u0 (Heap.listClear 0) hW).map (fun p => p.2.value 0) = some (some []) ∧
    (run u0 (Heap.setLen 0 7) hW).map (fun p => p.2.fmts.map (·.len)) = some [some 7] ∧
    interp u0 true (Heap.listExtend 0 [0]) [] hW = none ∧
    interp u0 true (Heap.listClear 0) [] hW = none ∧
    interp u0 true (Heap.setLen 0 7) [] hW = none := by
  decide +kernel

/-- Non-vacuity: a program with aliasing and observations before and after it.
      a = red('ab') + bold('c');  sep = bold(',') + ' ';  str(a); len(sep)
      j = sep.join([a, 'y', a])          -- `before` aliases sep.chunks; j shares a's and sep's runs
      s = a[0:2]                         -- whole-run slice: s.chunks[0] IS a.chunks[0]
      t = a.splice('', 1)                -- t IS a
      str(j); s.s; a.width; len(t)
      k = s.append(sep); m = j * 2
    Afterwards `a`, `sep`, `j`, `s` have the values they had when created. -/
private def exProg : List Op :=
  [.lit [⟨['a', 'b'], { fg := some 1 }⟩, ⟨['c'], { bold := some true }⟩],
   .lit [⟨[','], { bold := some true }⟩, ⟨[' '], {}⟩],
   .obsStr 0, .obsLen 1,
   .join 1 [.ref 0, .str ['y'], .ref 0],
   .getitem 0 (.slice (some 0) (some 2) false),
   .splice 0 (.str []) 1 none,
   .obsStr 4, .obsS 5, .obsWidth 0, .obsLen 0,
   .append 5 (.ref 1), .mul 4 2]

theorem C13_example_aliasing :
    scopedB u0 exProg {} = true ∧
    (match runProg u0 exProg {} with
     | none => false
     | some (rs, h) =>
       rs.take 2 == [.refs [0], .refs [1]] && rs[4]? == some (.refs [4]) && rs[5]? == some (.refs [5]) &&
       rs[6]? == some (.refs [0]) &&                                           -- splice returned `a` itself
       (h.fmts[5]?.bind fun f => h.lists[f.chunks]?) == some [0] &&             -- the slice holds a's run object 0
       (h.fmts[0]?.bind fun f => h.lists[f.chunks]?) == some [0, 1] &&
       h.value 0 == some [⟨['a', 'b'], { fg := some 1 }⟩, ⟨['c'], { bold := some true }⟩] &&
       h.value 1 == some [⟨[','], { bold := some true }⟩, ⟨[' '], {}⟩] &&
       h.value 5 == some [⟨['a', 'b'], { fg := some 1 }⟩] &&
       (h.value 4).map text == some ['a', 'b', 'c', ',', ' ', 'y', ',', ' ', 'a', 'b', 'c'] &&
       (h.fmts[0]?.map fun f => (f.uni.isSome, f.len.isSome, f.width.isSome)) == some (true, true, true)) = true := by
  decide +kernel

end Curtsies
