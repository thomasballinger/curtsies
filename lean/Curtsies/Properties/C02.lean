/-
  C02 - FullscreenWindow: after every render the screen equals the array.

  Terminal = Spec/Term.lean (`Term`, `exec`); window = Model/Window.lean (`renderFullscreen`, emitting `TermOp`s;
  writing a line is `TermOp.putStr (render line)`, which C01 turns into "the cells of the line, default state after").

  `Inv win t`: what the row cache promises.  Every cached line is ESC-free, and IF the size the window last rendered at is
  the terminal's size and the cache is non-empty, every screen row shows its cached line (blank for `None` and for rows
  absent from the cache — the "skip rows not in the cache" shortcut relies on it).

  Hypotheses: rows `Glyphs` (Proofs/Window.lean) - no control character at all, and each character one column wide
  ("single-column characters" in the property's quantifier; the terminal spec's `put` is defined only for such cells;
  wide characters are C10's); cursor_pos on the screen; the terminal is in its DEFAULT GRAPHIC STATE when the render
  starts (`t.g = {}`: `put` carries absolute formatting computed from the default state, and erasing uses the current
  background) - every `str(FmtStr)` ends in the default state, and the theorems prove `g = {}` again after each render,
  so the window itself never leaves another one.
-/
import Curtsies.Proofs.Window
import Curtsies.Generated.Blessed
namespace Curtsies
open Window Spec Spec.Terminal

namespace Window

theorem getslice_effCells (l : FmtStr) (w : Nat) : effCells (getslice l 0 w) = (effCells l).take w := by
  simp [effCells, getslice_cells, List.map_take]

theorem getslice_escFree (l : FmtStr) (w : Nat) (h : EscFree l) : EscFree (getslice l 0 w) :=
  fun ch hch => h ch (List.mem_of_mem_take (by rwa [getslice_text, List.drop_zero] at hch))

end Window

/-- cell (r, c) of the array as a terminal shows it; blank outside the array -/
def C02.arrayCell (arr : List FmtStr) (r c : Nat) : TCell :=
  match arr[r]? with
  | some l => (effCells l)[c]?.getD blank
  | none => blank

def C02.Inv (win : Win) (t : Term) : Prop :=
  CacheEsc win.cache ∧ (win.lastH = some t.h → win.lastW = some t.w → Coherent win.cache t 0)

open C02

/-- a freshly constructed window satisfies `Inv` on any terminal whatsoever -/
theorem C02_initial (hide : Bool) (t : Term) : Inv { hideCursor := hide } t :=
  ⟨cacheEsc_nil, fun h => by simp at h⟩

/-- only the cache compared against depends on whether the size changed -/
theorem renderFullscreen_closed (win : Win) (h w : Nat) (arr : List FmtStr) (pos : Nat × Nat) :
    renderFullscreen win h w arr pos =
      let old := if win.lastH = some h ∧ win.lastW = some w then win.cache else []
      let s := min h arr.length
      let c1 := contentLoop old w (fun l => getslice l 0 w) (intRows 0 h) (arr.take h) []
      let c2 := blankLoop old (intRows s (h - s)) c1.1
      ({ win with cache := c2.1, lastH := some h, lastW := some w },
        (if !win.hideCursor then [TermOp.hide] else []) ++ (c1.2 ++ c2.2) ++
          ([.cup pos.1 pos.2] ++ (if !win.hideCursor then [TermOp.show] else []))) := by
  have hw0 : (if win.lastH ≠ some h ∨ win.lastW ≠ some w then win.onTerminalSizeChange h w else win) =
      { win with cache := if win.lastH = some h ∧ win.lastW = some w then win.cache else [],
                 lastH := some h, lastW := some w } := by
    by_cases hs : win.lastH = some h ∧ win.lastW = some w
    · -- the size it last rendered at: the window stays as it is
      rw [if_neg fun h' => h'.elim (absurd hs.1) (absurd hs.2), if_pos hs, ← hs.1, ← hs.2]
    · rw [if_pos (Decidable.not_and_iff_not_or_not.mp hs), if_neg hs]
      rfl
  have hb : pyRange arr.length h = intRows (min h arr.length) (h - min h arr.length) := by
    rw [pyRange_eq]
    by_cases hl : arr.length ≤ h
    · rw [Nat.min_eq_right hl]
    · -- more lines than rows: no row is left, whichever row the count starts from
      rw [Nat.min_eq_left (by omega), Nat.sub_self, Nat.sub_eq_zero_of_le (by omega)]
      rfl
  have h0 : pyRange 0 h = intRows 0 h := pyRange_eq 0 h
  simp only [renderFullscreen, hw0, h0, hb, List.append_assoc]

/-- One render from ANY terminal related to the window by `Inv` (any junk screen when the cache is empty or the size
    changed).  In order: the screen is the array, cell by cell (rows and columns beyond the terminal are clipped); cursor
    row, column, no pending wrap; visibility; scrollback, height, width as before; default graphic state; `Inv` again. -/
theorem C02_render (u : UEnv) (win : Win) (t : Term) (arr : List FmtStr) (pos : Nat × Nat)
    (hpos : pos.1 < t.h ∧ pos.2 < t.w) (hbg : t.g = {}) (hprint : ∀ l ∈ arr, Glyphs u l) (hinv : Inv win t) :
    (∀ r c, r < t.h → c < t.w → (exec t (renderFullscreen win t.h t.w arr pos).2).grid r c = arrayCell arr r c) ∧
    (exec t (renderFullscreen win t.h t.w arr pos).2).r = pos.1 ∧
    (exec t (renderFullscreen win t.h t.w arr pos).2).c = pos.2 ∧
    (exec t (renderFullscreen win t.h t.w arr pos).2).pw = false ∧
    (exec t (renderFullscreen win t.h t.w arr pos).2).cursorVisible = (if win.hideCursor then t.cursorVisible else true) ∧
    (exec t (renderFullscreen win t.h t.w arr pos).2).scrollback = t.scrollback ∧
    (exec t (renderFullscreen win t.h t.w arr pos).2).h = t.h ∧
    (exec t (renderFullscreen win t.h t.w arr pos).2).w = t.w ∧
    (exec t (renderFullscreen win t.h t.w arr pos).2).g = {} ∧
    Inv (renderFullscreen win t.h t.w arr pos).1 (exec t (renderFullscreen win t.h t.w arr pos).2) := by
  rw [renderFullscreen_closed]
  dsimp only
  have hold := cacheEsc_ite (p := win.lastH = some t.h ∧ win.lastW = some t.w) hinv.1
  have hcoh := coherent_ite (p := win.lastH = some t.h ∧ win.lastW = some t.w) fun h => hinv.2 h.1 h.2
  -- every line is cut to the width
  have hlines : ∀ l ∈ arr.take t.h, EscFree (getslice l 0 t.w) ∧ len (getslice l 0 t.w) ≤ t.w := fun l hl =>
    ⟨getslice_escFree l t.w (hprint l (List.mem_of_mem_take hl)).1.escFree, by rw [len_getslice]; omega⟩
  have hfit : 0 + min t.h arr.length ≤ t.h := by omega
  have P := paint_framed _ (fun l => getslice l 0 t.w) hold (arr.take t.h) (k := 0) (s := min t.h arr.length) (m := t.h) t
    (hs := List.length_take) (hm := Nat.min_le_left _ _) (hk := hfit) hbg hlines hcoh win.hideCursor
  -- the window starts on row 0
  simp only [Nat.zero_add, Nat.sub_zero] at P
  rw [exec_framed_on t _ win.hideCursor _ pos.1 pos.2 rfl P.frame hpos.1 hpos.2]
  generalize exec _ (_ ++ _) = t2 at P ⊢
  refine ⟨fun r c hr hc => ?_, rfl, rfl, rfl, rfl, P.frame.sb, P.frame.h, P.frame.w, P.bg, P.esc,
    fun _ _ => P.rows.coherent⟩
  have := P.shows r (by rw [Nat.zero_add]; exact hr) c (P.frame.w.symm ▸ hc)
  rw [Nat.zero_add] at this
  refine this.trans ?_
  unfold arrayCell
  rw [List.getElem?_take, if_pos hr]
  cases arr[r]? with
  | none => rfl
  | some l => simp only [getslice_effCells, List.getElem?_take, if_pos hc]

/-- one step of a history: a render, or a terminal resize that leaves ARBITRARY content, size and cursor behind -/
inductive C02.Step
  | render (arr : List FmtStr) (pos : Nat × Nat)
  | resize (h w : Nat) (grid : Grid) (r c : Nat)

def C02.resized (t : Term) (h w : Nat) (grid : Grid) (r c : Nat) : Term :=
  { t with h := h, w := w, grid := grid, r := r, c := c, pw := false }

def C02.run : Win → Term → List C02.Step → Win × Term
  | win, t, [] => (win, t)
  | win, t, .render arr pos :: rest =>
    C02.run (renderFullscreen win t.h t.w arr pos).1 (exec t (renderFullscreen win t.h t.w arr pos).2) rest
  | win, t, .resize h w grid r c :: rest => C02.run win (C02.resized t h w grid r c) rest

/-- the property's domain: rows of printable single-column characters (`Glyphs`), cursor_pos on the screen, resizes go
    to a size different from the one last rendered at (the window cannot notice a resize back to the size it rendered
    at before its next render) -/
def C02.Valid (u : UEnv) : Win → Term → List C02.Step → Prop
  | _, _, [] => True
  | win, t, .render arr pos :: rest =>
    pos.1 < t.h ∧ pos.2 < t.w ∧ (∀ l ∈ arr, Glyphs u l) ∧
      C02.Valid u (renderFullscreen win t.h t.w arr pos).1 (exec t (renderFullscreen win t.h t.w arr pos).2) rest
  | win, t, .resize h w grid r c :: rest =>
    (win.lastH ≠ some h ∨ win.lastW ≠ some w) ∧ C02.Valid u win (C02.resized t h w grid r c) rest

theorem C02_run_inv (u : UEnv) (steps more : List C02.Step) :
    ∀ (win : Win) (t : Term), Inv win t → t.g = {} → C02.Valid u win t (steps ++ more) →
      Inv (C02.run win t steps).1 (C02.run win t steps).2 ∧ (C02.run win t steps).2.g = {} ∧
      C02.Valid u (C02.run win t steps).1 (C02.run win t steps).2 more := by
  induction steps with
  | nil => intro win t hi hb hv; exact ⟨hi, hb, hv⟩
  | cons st rest ih =>
    intro win t hi hb hv
    cases st with
    | render arr pos =>
      obtain ⟨h1, h2, h3, h4⟩ := hv
      obtain ⟨-, -, -, -, -, -, -, -, hg, hinv⟩ := C02_render u win t arr pos ⟨h1, h2⟩ hb h3 hi
      exact ih _ _ hinv hg h4
    | resize h w grid r c =>
      obtain ⟨h1, h2⟩ := hv
      -- not the size last rendered at: `Inv` promises nothing about the screen
      exact ih win (C02.resized t h w grid r c) ⟨hi.1, fun e1 e2 => h1.elim (absurd e1) (absurd e2)⟩ hb h2

/-- After EVERY render of every history — whatever was rendered before, whatever the resizes left on the screen — the
    screen equals the array (clipped to the terminal), the cursor is at cursor_pos, and nothing scrolled.
    (`steps` is the history before that render, starting from any window/terminal pair satisfying `Inv`, e.g. a
    freshly constructed window on an arbitrary screen: `C02_initial`.) -/
theorem C02_history (u : UEnv) (win : Win) (t : Term) (steps : List C02.Step) (arr : List FmtStr) (pos : Nat × Nat)
    (hinv : Inv win t) (hbg : t.g = {}) (hv : C02.Valid u win t (steps ++ [.render arr pos])) :
    let win1 := (C02.run win t steps).1
    let t1 := (C02.run win t steps).2
    let t2 := exec t1 (renderFullscreen win1 t1.h t1.w arr pos).2
    (∀ r c, r < t1.h → c < t1.w → t2.grid r c = arrayCell arr r c) ∧
    t2.r = pos.1 ∧ t2.c = pos.2 ∧ t2.pw = false ∧
    t2.cursorVisible = (if win1.hideCursor then t1.cursorVisible else true) ∧
    t2.scrollback = t1.scrollback ∧ t2.h = t1.h ∧ t2.w = t1.w := by
  obtain ⟨hi, hb, hv'⟩ := C02_run_inv u steps [.render arr pos] win t hinv hbg hv
  obtain ⟨h1, h2, h3, _⟩ := hv'
  have r := C02_render u _ _ arr pos ⟨h1, h2⟩ hb h3 hi
  -- its first eight clauses, in order: all but the graphic state and `Inv`
  exact ⟨r.1, r.2.1, r.2.2.1, r.2.2.2.1, r.2.2.2.2.1, r.2.2.2.2.2.1, r.2.2.2.2.2.2.1, r.2.2.2.2.2.2.2.1⟩

/-- non-vacuity: a 2x3 terminal full of junk; render a too-wide red row over a short row, resize, render again -/
example : C02.Valid ⟨fun _ => 1, fun _ => false⟩ {} { h := 2, w := 3, grid := fun _ _ => ('#', { bg := some 1 }) }
    [.render [[⟨"abcd".toList, { fg := some 1 }⟩], [⟨"x".toList, {}⟩], [⟨"zzz".toList, {}⟩]] (1, 2),
     .resize 1 2 (fun _ _ => ('?', {})) 0 0,
     .render [[⟨"q".toList, {}⟩]] (0, 1)] := by
  refine ⟨by decide, by decide, ?_, ⟨Or.inl (by decide), by decide, by decide, ?_, trivial⟩⟩
  · -- the three rows of the first render are `Glyphs`
    intro l hl
    simp at hl
    refine ⟨?_, fun _ _ => rfl⟩
    intro ch hch
    revert ch
    rcases hl with rfl | rfl | rfl <;> decide
  · -- so is the row of the second
    intro l hl
    simp at hl
    subst hl
    refine ⟨?_, fun _ _ => rfl⟩
    intro ch hch
    revert ch
    decide

/-- The strings blessed emits under TERM=xterm (regenerated from the live library on every run) are the control
    functions the `TermOp` vocabulary stands for (header of Spec/Term.lean). -/
theorem C02_caps :
    Generated.Blessed.clearEol = "\x1b[K" ∧ Generated.Blessed.clearBol = "\x1b[1K" ∧
    Generated.Blessed.clearEos = "\x1b[J" ∧ Generated.Blessed.hideCursor = "\x1b[?25l" ∧
    Generated.Blessed.normalCursor = "\x1b[?12l\x1b[?25h" ∧ Generated.Blessed.moveDown = "\n" ∧
    Generated.Blessed.moveX0 = "\x1b[1G" ∧ Generated.Blessed.save = "\x1b7" ∧ Generated.Blessed.restore = "\x1b8" ∧
    Generated.Blessed.locationEnter = "\x1b7\x1b[1000001;1H" ∧ Generated.Blessed.locationExit = "\x1b8" ∧
    Generated.Blessed.fullscreenEnter = Generated.Blessed.enterFullscreen ∧
    Generated.Blessed.fullscreenExit = Generated.Blessed.exitFullscreen ∧
    Generated.Blessed.enterFullscreen.startsWith "\x1b[?1049h" = true ∧
    Generated.Blessed.exitFullscreen.startsWith "\x1b[?1049l" = true ∧
    Generated.Blessed.moveSamples.all (fun (r, c, s) => s == "\x1b[" ++ toString (r + 1) ++ ";" ++ toString (c + 1) ++ "H")
      = true := by
  decide +kernel

end Curtsies
