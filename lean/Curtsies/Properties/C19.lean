/-
  C19 - Equality, hashing and repr of FmtStr are coherent with what it displays.

  `==`, `hash` are thin in Lean (the code compares / hashes `str(self)`, the model says exactly that); the display clause
  `C19_eq_display` rests on `C01_display`.  The reflected comparison `s == f` reaching `FmtStr.__eq__` and `hash` of a str
  are CPython facts (correspondence only).
  `C19_repr_partial`: `repr(f)` of a FmtStr with at least one run is an expression over string literals, `+` and the
  fmtfuncs names of the REGENERATED table, and evaluating it (the model's evaluator uses the real `from_str` model) gives a
  value - a FmtStr, or a plain str when nothing is formatted - with the same characters and the same displayed
  formatting, PROVIDED no formatted run's text contains an `ESC [` pair; without the proviso the statement
  (`C19_repr_full_statement`) is false: open finding D27, `C19_repr_witness`.
  `lower` (str.lower) only has to leave the lower-case helper names alone (`LowerOk`; `idl` does).
-/
import Curtsies.Model.Repr
import Curtsies.Properties.C01
import Curtsies.Properties.C14
import Curtsies.Generated.EscParse
namespace Curtsies
open Spec

/-- `f == g` is equality of the terminal strings. -/
theorem C19_eq (f g : FmtStr) :
    fmtEqObj f (.fmt g) = some (decide (render f = render g)) ∧ (fmtEq f g = true ↔ render f = render g) := by
  simp [fmtEqObj, fmtEq]

/-- `f == s` for a plain str: the terminal string is that str (with the operands swapped Python calls the same method,
    hence the one `eqStr`); a `bytes` operand is compared through `str(other)`, its repr text `b'...'`; any other
    object: NotImplemented. -/
theorem C19_str (f : FmtStr) (s : Text) :
    fmtEqObj f (.str s) = some (decide (render f = s)) ∧ (eqStr f s = true ↔ render f = s) ∧
    fmtEqObj f (.bytes s) = some (decide (render f = s)) ∧ fmtEqObj f .other = none := by
  simp [fmtEqObj, eqStr]

/-- `==` on FmtStrs is an equivalence relation (what dict/set membership needs besides the hash law). -/
theorem C19_eq_equiv (f g h : FmtStr) :
    fmtEq f f = true ∧ (fmtEq f g = fmtEq g f) ∧ (fmtEq f g = true → fmtEq g h = true → fmtEq f h = true) := by
  refine ⟨by simp [fmtEq], ?_, ?_⟩
  · simp only [fmtEq]; by_cases e : render f = render g <;> simp [e, eq_comm]
  · simp only [fmtEq, decide_eq_true_eq]; exact fun a b => a.trans b

/-- Equal values hash equal, for whatever `hash` is on str; a FmtStr equal to a plain str hashes like it. -/
theorem C19_hash (strHash : Text → Int) (f g : FmtStr) (s : Text) :
    (fmtEq f g = true → hashFmt strHash f = hashFmt strHash g) ∧
    (eqStr f s = true → hashFmt strHash f = strHash s) := by
  simp only [fmtEq, eqStr, decide_eq_true_eq, hashFmt]
  exact ⟨fun e => by rw [e], fun e => by rw [e]⟩

/-- Equal FmtStrs display the same: same characters, same formatting on each (texts free of ESC / 8-bit CSI,
    the domain of C01). -/
theorem C19_eq_display (f g : FmtStr)
    (hf : ∀ ch ∈ text f, ch ≠ Curtsies.ESC ∧ ch ≠ Curtsies.CSI8)
    (hg : ∀ ch ∈ text g, ch ≠ Curtsies.ESC ∧ ch ≠ Curtsies.CSI8)
    (h : fmtEq f g = true) : effCells f = effCells g := by
  simp only [fmtEq, decide_eq_true_eq] at h
  have e1 := C01_display f hf
  have e2 := C01_display g hg
  rw [h, e2] at e1
  injection e1 with e1
  exact e1.symm

/-- Equality looks at formatting and run boundaries only as far as the terminal string does: same text, different
    colour - different; explicit `False` style - equal to plain. -/
example : fmtEq [⟨['a'], { fg := some 1 }⟩] [⟨['a'], { fg := some 2 }⟩] = false := by decide
example : fmtEq [⟨['a'], { bold := some false }⟩] [⟨['a'], {}⟩] = true := by decide
example : fmtEq [⟨['a'], {}⟩, ⟨['b'], {}⟩] [⟨['a', 'b'], {}⟩] = true := by decide

/-- the (name, dict) pairs `repr_part` writes, outermost first -/
def namedAtts (a : Atts) : List (String × Atts) :=
  (a.bg.map fun c => ("on_" ++ colourName c, ({ bg := some c } : Atts))).toList ++
  (if a.blink = some true then [("blink", ({ blink := some true } : Atts))] else []) ++
  (if a.bold = some true then [("bold", ({ bold := some true } : Atts))] else []) ++
  (if a.dark = some true then [("dark", ({ dark := some true } : Atts))] else []) ++
  (a.fg.map fun c => (colourName c, ({ fg := some c } : Atts))).toList ++
  (if a.invert = some true then [("invert", ({ invert := some true } : Atts))] else []) ++
  (if a.italic = some true then [("italic", ({ italic := some true } : Atts))] else []) ++
  (if a.underline = some true then [("underline", ({ underline := some true } : Atts))] else [])

theorem fgName_bgName_eq : ∀ c : Fin 8, fgName c = some (colourName c) ∧ bgName c = some ("on_" ++ colourName c) := by
  decide +kernel

theorem reprNames_eq (a : Atts) : reprNames a = some ((namedAtts a).map Prod.fst) := by
  unfold reprNames namedAtts
  simp only [List.map_append, apply_ite (List.map Prod.fst), List.map_cons, List.map_nil]
  -- the six style pieces now agree as written; only the two colour lookups are left
  cases a.bg <;> cases a.fg <;> simp only [fgName_bgName_eq] <;> rfl

/-- The dict on the literal after the helper calls `wrapCalls` writes for `L` (its first name is the outermost call,
    applied last). -/
def wrapAtts (L : List (String × Atts)) : Atts := L.foldr (fun p acc => Atts.extend acc p.2) ({} : Atts)

theorem wrapAtts_cons (p : String × Atts) (L : List (String × Atts)) :
    wrapAtts (p :: L) = (wrapAtts L).extend p.2 := rfl

theorem wrapAtts_proj {β : Type} (proj : Atts → Option β) (h0 : proj {} = none)
    (hext : ∀ x y : Atts, proj (x.extend y) = (proj y).orElse fun _ => proj x) (L : List (String × Atts)) :
    proj (wrapAtts L) = L.findSome? fun p => proj p.2 := by
  induction L with
  | nil => simp [wrapAtts, h0]
  | cons p rest ih =>
    rw [wrapAtts_cons, hext, ih, List.findSome?_cons]
    cases proj p.2 <;> rfl

theorem findSome_ite {α β : Type} (f : α → Option β) (c : Prop) [Decidable c] (x : α) :
    List.findSome? f (if c then [x] else []) = if c then f x else none := by
  split <;> simp
theorem findSome_optList {α β γ : Type} (f : α → Option β) (o : Option γ) (g : γ → α) :
    List.findSome? f (o.map g).toList = o.bind fun v => f (g v) := by
  cases o <;> simp

theorem flag_ite_true (o : Option Bool) : flag (if o = some true then some true else none) = flag o := by
  rcases o with _|_|_ <;> rfl

theorem namedAtts_eff (a : Atts) : (wrapAtts (namedAtts a)).eff = a.eff := by
  simp only [Atts.eff,
    -- a field of the accumulated dict is the first piece of `namedAtts` that has it
    wrapAtts_proj Atts.bg rfl (fun _ _ => rfl), wrapAtts_proj Atts.blink rfl (fun _ _ => rfl),
    wrapAtts_proj Atts.bold rfl (fun _ _ => rfl), wrapAtts_proj Atts.dark rfl (fun _ _ => rfl),
    wrapAtts_proj Atts.fg rfl (fun _ _ => rfl), wrapAtts_proj Atts.invert rfl (fun _ _ => rfl),
    wrapAtts_proj Atts.italic rfl (fun _ _ => rfl), wrapAtts_proj Atts.underline rfl (fun _ _ => rfl),
    -- the search, piece by piece
    namedAtts, List.findSome?_append, findSome_ite, findSome_optList,
    -- seven pieces do not have the field; its own piece gives it back, and a style that is not `True`, having no piece,
    -- shows like an absent one
    ite_self, Option.or_none, Option.none_or, Option.bind_fun_none, Option.bind_fun_some, flag_ite_true]

/-- `lower` leaves the names bound by the fmtfuncs helpers alone (they are lower-case already). -/
def LowerOk (lower : String → String) : Prop :=
  ∀ name bound, Generated.fmtfuncs.lookup name = some bound →
    lower bound = bound ∧ lower (strDrop3 bound) = strDrop3 bound

def HelperFor (lower : String → String) (p : String × Atts) : Prop :=
  ∃ bound, Generated.fmtfuncs.lookup p.1 = some bound ∧ parseArgs lower [] (fmtfuncKw bound []) = .ok p.2

theorem helperFor_of_idl {lower : String → String} (hl : LowerOk lower) {p : String × Atts} (h : HelperFor idl p) :
    HelperFor lower p := by
  obtain ⟨bound, hb, hp⟩ := h
  refine ⟨bound, hb, ?_⟩
  rw [← hp]
  apply C14_lower_congr
  intro s hs
  -- the only string among the arguments is `bound`, as `style=`
  obtain rfl : s = bound := by
    unfold fmtfuncKw at hs
    split at hs
    · simp [Kw.get?] at hs
    · simpa [Kw.get?] using hs
  exact hl p.1 s hb

theorem namedAtts_helperFor {lower : String → String} (hl : LowerOk lower) (a : Atts) :
    ∀ p ∈ namedAtts a, HelperFor lower p := by
  have st : ∀ q ∈ styleNames, HelperFor lower (q.1, styleAtts q.2 true) := fun q hq =>
    helperFor_of_idl hl ⟨_, fmtfunc_style q hq⟩
  intro p hp
  simp only [namedAtts, List.mem_append, List.mem_ite_nil_right, List.mem_singleton, Option.mem_toList,
    Option.map_eq_some_iff, or_assoc] at hp
  rcases hp with ⟨c, _, rfl⟩ | ⟨_, rfl⟩ | ⟨_, rfl⟩ | ⟨_, rfl⟩ |
    ⟨c, _, rfl⟩ | ⟨_, rfl⟩ | ⟨_, rfl⟩ | ⟨_, rfl⟩
  · exact helperFor_of_idl hl ⟨_, fmtfunc_bg c⟩
  · exact st ("blink", .blink) (by decide)
  · exact st ("bold", .bold) (by decide)
  · exact st ("dark", .dark) (by decide)
  · exact helperFor_of_idl hl ⟨_, fmtfunc_fg c⟩
  · exact st ("invert", .invert) (by decide)
  · exact st ("italic", .italic) (by decide)
  · exact st ("underline", .underline) (by decide)

theorem evalExpr_wrapCalls (md : Nat) (lower : String → String) (s : Text)
    (L : List (String × Atts)) (hs : L ≠ [] → hasEscBracket s = false) (hg : ∀ p ∈ L, HelperFor lower p) :
    evalExpr md lower (wrapCalls (L.map Prod.fst) (.lit s))
      = some (if L.isEmpty then .str s else .fmt [⟨s, wrapAtts L⟩]) := by
  induction L with
  | nil => simp [wrapCalls, evalExpr]
  | cons p rest ih =>
    obtain ⟨bound, hb, hp⟩ := hg p (List.mem_cons_self ..)
    have hs : hasEscBracket s = false := hs (by simp)
    have ih := ih (fun _ => hs) (fun q hq => hg q (List.mem_cons_of_mem _ hq))
    simp only [wrapCalls, List.map_cons, List.foldr_cons] at ih ⊢
    simp only [evalExpr, ih]
    cases rest with
    | nil =>
      simp [callFmtfunc, hb, fromStr, hs, fmtfuncApply, fmtstrApply, hp, copyWithNewAtts, wrapAtts]
    | cons q r =>
      simp [callFmtfunc, hb, fmtfuncApply, fmtstrApply, hp, copyWithNewAtts, wrapAtts_cons]

theorem evalExpr_reprPart (md : Nat) (lower : String → String) (hl : LowerOk lower) (c : Chunk)
    (hs : namedAtts c.atts ≠ [] → hasEscBracket c.s = false) :
    ∃ e v, reprPart c = some e ∧ evalExpr md lower e = some v ∧ v.effCells = effCells [c] := by
  refine ⟨_, _, ?_, evalExpr_wrapCalls md lower c.s (namedAtts c.atts) hs (namedAtts_helperFor hl c.atts), ?_⟩
  · simp [reprPart, reprNames_eq]
  · have ha := namedAtts_eff c.atts
    by_cases he : (namedAtts c.atts).isEmpty = true
    · rw [if_pos he]
      have : namedAtts c.atts = [] := List.isEmpty_iff.mp he
      rw [this] at ha
      have ha' : ({} : Eff) = c.atts.eff := ha
      simp [Val.effCells, effCells, Chunk.cells, List.map_map, Function.comp_def, ha']
    · rw [if_neg he]
      simp [Val.effCells, effCells, Chunk.cells, List.map_map, Function.comp_def, ha]

theorem valAdd_eff (x y : Val) : (valAdd x y).effCells = x.effCells ++ y.effCells := by
  cases x <;> cases y <;>
    simp [valAdd, Val.effCells, effCells, addStr, raddStr, add, Chunk.cells, List.map_map, Function.comp_def]
  all_goals (intros; rfl)

theorem effCells_cons (c : Chunk) (f : FmtStr) : effCells (c :: f) = effCells [c] ++ effCells f := by
  simp [effCells]

/-- FULL STATEMENT of the repr clause: for every FmtStr with at least one run, `repr(f)` evaluates in the fmtfuncs
    namespace to a value with the same characters and formatting. -/
def C19_repr_full_statement : Prop :=
  ∀ (md : Nat) (lower : String → String), LowerOk lower → ∀ f : FmtStr, f ≠ [] →
    ∃ e v, reprAst f = some e ∧ evalExpr md lower e = some v ∧ v.effCells = effCells f

/-- PARTIAL (open finding D27): the full statement when no FORMATTED run - one whose repr is wrapped in a helper call,
    `namedAtts c.atts ≠ []`: a colour, or a style that is `True` - has a text containing an `ESC [` pair.  Such a text
    is written into the repr as a plain literal and `fmtstr` re-parses it as escape sequences when the helper is called
    (`C19_repr_witness`); an unformatted run with `ESC [` stays a plain literal and round-trips, so the hypothesis is
    exactly the complement of the finding's footprint. -/
theorem C19_repr_partial (md : Nat) (lower : String → String) (hl : LowerOk lower) (f : FmtStr) (hne : f ≠ [])
    (hclean : ∀ c ∈ f, namedAtts c.atts ≠ [] → hasEscBracket c.s = false) :
    ∃ e v, reprAst f = some e ∧ evalExpr md lower e = some v ∧ v.effCells = effCells f := by
  have parts : ∀ (g : FmtStr), (∀ c ∈ g, namedAtts c.atts ≠ [] → hasEscBracket c.s = false) →
      ∃ es, g.mapM reprPart = some es ∧
        ∀ e v, evalExpr md lower e = some v →
          ∃ w, evalExpr md lower (plusAll e es) = some w ∧ w.effCells = v.effCells ++ effCells g := by
    intro g
    induction g with
    | nil => intro _; exact ⟨[], rfl, fun e v he => ⟨v, he, by simp [effCells]⟩⟩
    | cons c g ih =>
      intro hc
      obtain ⟨es, hes, hrest⟩ := ih (fun c' h' => hc c' (List.mem_cons_of_mem _ h'))
      obtain ⟨ec, vc, h1, h2, h3⟩ := evalExpr_reprPart md lower hl c (hc c (List.mem_cons_self ..))
      refine ⟨ec :: es, by simp [List.mapM_cons, h1, hes], ?_⟩
      intro e v he
      have hplus : evalExpr md lower (.plus e ec) = some (valAdd v vc) := by simp [evalExpr, he, h2]
      obtain ⟨w, hw1, hw2⟩ := hrest _ _ hplus
      refine ⟨w, hw1, ?_⟩
      rw [hw2, valAdd_eff, h3, effCells_cons c g, List.append_assoc]
  cases f with
  | nil => exact absurd rfl hne
  | cons c g =>
    obtain ⟨es, hes, hrest⟩ := parts g (fun c' h' => hclean c' (List.mem_cons_of_mem _ h'))
    obtain ⟨ec, vc, h1, h2, h3⟩ := evalExpr_reprPart md lower hl c (hclean c (List.mem_cons_self ..))
    obtain ⟨w, hw1, hw2⟩ := hrest ec vc h2
    refine ⟨plusAll ec es, w, ?_, hw1, ?_⟩
    · simp [reprAst, List.mapM_cons, h1, hes]
    · rw [hw2, h3, ← effCells_cons]

/-- WITNESS for D27 (replayed on the real code by the harness): `FmtStr(Chunk('\x1b[31mx', {'bold': True}))` has six
    bold characters; its repr `bold('\x1b[31mx')` evaluates to ONE character, bold and red. -/
theorem C19_repr_witness :
    (reprAst [⟨[Curtsies.ESC, '[', '3', '1', 'm', 'x'], { bold := some true }⟩]).bind
        (evalExpr Generated.intMaxStrDigits idl)
      = some (.fmt [⟨['x'], { fg := some 1, bold := some true }⟩]) := by
  decide +kernel

/-- `LowerOk` is satisfiable (the driver evaluates with this `lower`). -/
theorem C19_lowerOk_idl : LowerOk idl := fun _ _ _ => ⟨rfl, rfl⟩

/-- The full statement is FALSE for the model (hence the finding, not a gap in the proof). -/
theorem C19_repr_full_statement_false : ¬ C19_repr_full_statement := by
  intro h
  obtain ⟨e, v, h1, h2, h3⟩ := h Generated.intMaxStrDigits idl C19_lowerOk_idl
    [⟨[Curtsies.ESC, '[', '3', '1', 'm', 'x'], { bold := some true }⟩] (by decide)
  have w := C19_repr_witness
  rw [h1, Option.bind_some, h2] at w
  injection w with w
  subst w
  revert h3; decide +kernel

/-- Non-vacuity: bold red 'a' next to a plain run and an empty on-blue run. -/
example : reprAst [⟨['a'], { fg := some 1, bold := some true }⟩, ⟨['b'], {}⟩, ⟨[], { bg := some 4 }⟩]
    = some (.plus (.plus (.app "bold" (.app "red" (.lit ['a']))) (.lit ['b'])) (.app "on_blue" (.lit []))) := by
  decide +kernel

end Curtsies
