/-
  C16 - linesplit word-wraps without losing, reordering or restyling words.

  For every Unicode environment `u` (`isSpace` = the regex class `\s`), every FmtStr in any run layout and every
  `columns ≥ 1`, `C16_full : C16_full_statement`: `linesplit` raises nothing and, with `(gap, word)` the maximal
  whitespace / non-whitespace runs of `cells f` (`specWords`, an independent left-to-right grouping), the lines are
  the first word chopped into full-length pieces (`Chopped`) followed by what the relation `Greedy` allows: a word
  joins the current line - after ONE space carrying the attributes common to ALL cells of the gap it replaces
  (`gapAtts`) - iff `len cur + 1 + len w ≤ columns`, otherwise the line is closed and the word starts a new one, cut
  into full-length pieces when longer than a line. Characters keep their formatting because everything is stated on
  cells.
  The scanner (`spaceMatches`) is tied to `specWords` once (`scan_spec`); the other theorems are corollaries of
  `linesplit_spec` (apart from `columns = 0`, which `C16_wordless` and `C16_len` also cover). The hypothesis
  `u.isSpace ' ' = true` (the joining character is whitespace) is used by the proof of `C16_words_kept` only:
  `C16_full_statement` and `C16_clean_lines` carry it in their statements without need.
-/
import Curtsies.Proofs.Width
import Curtsies.Proofs.Slice
import Curtsies.Proofs.Atts
namespace Curtsies

/-! ### specification side (independent of the model) -/

/-- Maximal runs of non-whitespace cells, each with the whitespace run that precedes it (`gap`, `word` are the
    runs being read). Trailing whitespace is dropped. -/
def specWords (u : UEnv) : List Cell → List Cell → List Cell → List (List Cell × List Cell)
  | [], gap, word => if word.isEmpty then [] else [(gap, word)]
  | x :: rest, gap, word =>
    if u.isSpace x.1 then
      (if word.isEmpty then specWords u rest (gap ++ [x]) [] else (gap, word) :: specWords u rest [x] [])
    else specWords u rest gap (word ++ [x])

/-- the attributes every cell of the gap has (with the same value) -/
def gapAtts : List Cell → Atts
  | [] => {}
  | x :: rest => rest.foldl (fun a y => a.inter y.2) x.2

/-- `w` cut into full-length pieces `full` and a non-empty last piece -/
def Chopped (columns : Nat) (w : List Cell) (full : List (List Cell)) (last : List Cell) : Prop :=
  w = full.flatten ++ last ∧ (∀ p ∈ full, p.length = columns) ∧ 0 < last.length ∧ last.length ≤ columns

/-- `Greedy columns cur rest out`: with `cur` the line being filled, the remaining (word, joining-space attributes)
    pairs produce the lines `out`. -/
inductive Greedy (columns : Nat) : List Cell → List (List Cell × Atts) → List (List Cell) → Prop
  | done (cur : List Cell) : Greedy columns cur [] [cur]
  | join {cur w : List Cell} {a : Atts} {rest : List (List Cell × Atts)} {out : List (List Cell)} :
      cur.length + 1 + w.length ≤ columns →
      Greedy columns (cur ++ (' ', a) :: w) rest out → Greedy columns cur ((w, a) :: rest) out
  | wrap {cur w last : List Cell} {a : Atts} {rest : List (List Cell × Atts)} {full out : List (List Cell)} :
      ¬ (cur.length + 1 + w.length ≤ columns) → Chopped columns w full last →
      Greedy columns last rest out → Greedy columns cur ((w, a) :: rest) (cur :: full ++ out)

def C16_full_statement : Prop :=
  ∀ (u : UEnv) (f : FmtStr) (columns : Nat), 1 ≤ columns → u.isSpace ' ' = true →
    ∃ lines, linesplit u f columns = .ok lines ∧
      match specWords u (cells f) [] [] with
      | [] => lines = []
      | (_, w0) :: rest =>
        ∃ full last out, Chopped columns w0 full last ∧
          Greedy columns last (rest.map fun p => (p.2, gapAtts p.1)) out ∧
          lines.map cells = full ++ out

/-- `L[p.1:p.2]`. On `L = cells f` and spans `(start, end)` this and the four definitions after it are
    `linesplitWords` / `linesplitSpaces` without the `FmtStr`s (`words_spaces_spec`). -/
def spanCells (L : List Cell) (p : Nat × Nat) : List Cell := (L.take p.2).drop p.1

/-- the stretches between the whitespace matches `ms`, from `prev` to `n`: Python's
    `zip([0] + ends, starts + [len])` (`zip_eq_wordSpans`) -/
def wordSpans (prev : Nat) : List (Nat × Nat) → Nat → List (Nat × Nat)
  | [], n => [(prev, n)]
  | (s, e) :: r, n => (prev, s) :: wordSpans e r n

/-- `wordSpans` while a whitespace run is still open: the word before that run is already accounted for -/
def wordSpansAfter : List (Nat × Nat) → Nat → List (Nat × Nat)
  | [], _ => []
  | (_, e) :: r, n => wordSpans e r n

/-- the non-empty words among the stretches `segs`; the gaps among the matches `ms`, without a leading or a
    trailing one -/
def wordCells (L : List Cell) (segs : List (Nat × Nat)) : List (List Cell) :=
  (segs.filter fun p => p.1 ≠ p.2).map (spanCells L)
def gapCells (L : List Cell) (ms : List (Nat × Nat)) : List (List Cell) :=
  (ms.filter fun m => m.1 ≠ 0 ∧ m.2 ≠ L.length).map (spanCells L)

private theorem zip_eq_wordSpans (prev n : Nat) (ms : List (Nat × Nat)) :
    List.zip (prev :: ms.map Prod.snd) (ms.map Prod.fst ++ [n]) = wordSpans prev ms n := by
  induction ms generalizing prev with
  | nil => rfl
  | cons m r ih => obtain ⟨s, e⟩ := m; simp [wordSpans, ← ih]

private theorem spanCells_pre {L pre suf : List Cell} (hL : L = pre ++ suf) (a : Nat) :
    spanCells L (a, pre.length) = pre.drop a := by
  rw [hL]
  simp [spanCells]

private theorem specWords_head (u : UEnv) (suf gap word : List Cell) (h : word ≠ []) :
    ∃ w' tl, specWords u suf gap word = (gap, w') :: tl := by
  fun_induction specWords u suf gap word with
  | case1 gap word he => exact absurd (List.isEmpty_iff.mp he) h
  | case2 gap word he => exact ⟨word, [], rfl⟩
  | case3 x rest gap word hs he ih => exact absurd (List.isEmpty_iff.mp he) h
  | case4 x rest gap word hs he ih => exact ⟨word, _, rfl⟩
  | case5 x rest gap word hs ih => exact ih (by simp)

private theorem spaceMatches_some_cons (u : UEnv) (t : List Char) (i st : Nat) :
    ∃ e r, spaceMatches u t i (some st) = (st, e) :: r := by
  induction t generalizing i with
  | nil => exact ⟨i, [], rfl⟩
  | cons c rest ih =>
    by_cases h : u.isSpace c
    · simp only [spaceMatches, h, if_true, Option.getD_some]; exact ih (i + 1)
    · simp only [spaceMatches, h]; exact ⟨i, _, rfl⟩

/-- An empty run open at 0 is filtered out again, so the scan may be read as starting inside a whitespace run. -/
private theorem scan_start (u : UEnv) (L : List Cell) (t : List Char) :
    wordCells L (wordSpans 0 (spaceMatches u t 0 none) L.length)
        = wordCells L (wordSpansAfter (spaceMatches u t 0 (some 0)) L.length) ∧
      gapCells L (spaceMatches u t 0 none) = gapCells L (spaceMatches u t 0 (some 0)) := by
  cases t with
  | nil => simp [spaceMatches, wordSpansAfter, gapCells]
  | cons c rest =>
    by_cases h : u.isSpace c
    · obtain ⟨e, r, hshape⟩ := spaceMatches_some_cons u rest 1 0
      simp [spaceMatches, h, hshape, wordSpans, wordSpansAfter, wordCells]
    · simp [spaceMatches, h, wordSpansAfter, gapCells]

/-- The scanner and `specWords` in step: with `L = pre ++ suf`, `pre` the text already scanned, the words and gaps that
    the matches still to come cut out of `L` (`wordCells`, `gapCells`) are those `specWords` yields on `suf`.
    State `none`: the non-empty word being read is `pre.drop ws`; the gap before it is already accounted for.
    State `some st`: the whitespace run open since `st` is the gap `pre.drop st`; one that starts at 0 is the leading
    whitespace, which `linesplitSpaces` filters out and `specWords` keeps as the first gap (hence `tail`). -/
theorem scan_spec (u : UEnv) (L : List Cell) (suf : List Cell) :
    ∀ pre : List Cell, L = pre ++ suf →
    (∀ ws gap, ws < pre.length →
      wordCells L (wordSpans ws (spaceMatches u (suf.map Prod.fst) pre.length none) L.length)
          = (specWords u suf gap (pre.drop ws)).map Prod.snd ∧
        gapCells L (spaceMatches u (suf.map Prod.fst) pre.length none)
          = (specWords u suf gap (pre.drop ws)).tail.map Prod.fst) ∧
    (∀ st, st ≤ pre.length →
      wordCells L (wordSpansAfter (spaceMatches u (suf.map Prod.fst) pre.length (some st)) L.length)
          = (specWords u suf (pre.drop st) []).map Prod.snd ∧
        gapCells L (spaceMatches u (suf.map Prod.fst) pre.length (some st))
          = (if st = 0 then (specWords u suf (pre.drop st) []).tail
             else specWords u suf (pre.drop st) []).map Prod.fst) := by
  induction suf with
  | nil =>
    intro pre hL
    have hn : L.length = pre.length := by rw [hL]; simp
    constructor
    · intro ws gap hws
      have hne : pre.drop ws ≠ [] := mt List.drop_eq_nil_iff.mp (Nat.not_le.mpr hws)
      simp [spaceMatches, wordSpans, specWords, List.isEmpty_eq_false_iff.mpr hne, wordCells, gapCells, hn,
        Nat.ne_of_lt hws, spanCells_pre hL]
    · intro st hst
      simp [spaceMatches, wordSpansAfter, wordSpans, specWords, wordCells, gapCells, hn]
  | cons x suf' ih =>
    intro pre hL
    have ih' := ih (pre ++ [x]) (by rw [hL]; simp)
    rw [List.length_append, List.length_singleton] at ih'
    have hdropi : (pre ++ [x]).drop pre.length = [x] := by simp
    constructor
    · intro ws gap hws
      by_cases hs : u.isSpace x.1
      · -- the word `pre.drop ws` ends before `x`, which opens a whitespace run
        obtain ⟨e, r, hshape⟩ := spaceMatches_some_cons u (suf'.map Prod.fst) (pre.length + 1) pre.length
        have hsome := ih'.2 pre.length (Nat.le_succ _)
        have hne : pre.drop ws ≠ [] := mt List.drop_eq_nil_iff.mp (Nat.not_le.mpr hws)
        rw [hdropi, hshape, if_neg (Nat.ne_zero_of_lt hws)] at hsome
        simp only [List.map_cons, spaceMatches, specWords, hs, if_true, Option.getD_none, hshape,
          List.isEmpty_eq_false_iff.mpr hne, Bool.false_eq_true, if_false, List.tail_cons]
        show wordCells L (wordSpans ws ((pre.length, e) :: r) _) = pre.drop ws :: _ ∧ _
        refine ⟨?_, hsome.2⟩
        rw [← hsome.1]
        simp [wordSpans, wordSpansAfter, wordCells, Nat.ne_of_lt hws, spanCells_pre hL]
      · -- `x` lengthens the word
        have hnone := ih'.1 ws gap (Nat.lt_succ_of_lt hws)
        rw [List.drop_append_of_le_length (Nat.le_of_lt hws)] at hnone
        simp only [List.map_cons, spaceMatches, specWords, hs, Bool.false_eq_true, if_false]
        exact hnone
    · intro st hst
      by_cases hs : u.isSpace x.1
      · -- `x` lengthens the gap
        have hsome := ih'.2 st (Nat.le_succ_of_le hst)
        rw [List.drop_append_of_le_length hst] at hsome
        simp only [List.map_cons, spaceMatches, specWords, hs, if_true, Option.getD_some, List.isEmpty_nil]
        exact hsome
      · -- the gap `pre.drop st` ends before `x`, which begins a word; its match is kept unless `st = 0`
        have hnone := ih'.1 pre.length (pre.drop st) (Nat.lt_succ_self _)
        rw [hdropi] at hnone
        simp only [List.map_cons, spaceMatches, specWords, hs, List.nil_append, wordSpansAfter,
          Bool.false_eq_true, if_false]
        show _ ∧ gapCells L ((st, pre.length) :: _) = _
        refine ⟨hnone.1, ?_⟩
        obtain ⟨w', tl, hP⟩ := specWords_head u suf' (pre.drop st) [x] (by simp)
        rw [hP] at hnone ⊢
        have hm : gapCells L _ = tl.map Prod.fst := hnone.2
        have hnlt : pre.length ≠ L.length := by rw [hL]; simp
        by_cases h0 : st = 0
        · rw [if_pos h0, List.tail_cons, ← hm]
          simp [gapCells, h0]
        · rw [if_neg h0, List.map_cons, ← hm, ← spanCells_pre hL st]
          simp [gapCells, h0, hnlt]

/-- the model's word and gap extraction computes the maximal runs of the specification -/
theorem words_spaces_spec (u : UEnv) (f : FmtStr) :
    (linesplitWords f (spaceMatches u (text f) 0 none)).map cells
        = (specWords u (cells f) [] []).map Prod.snd ∧
    (linesplitSpaces f (spaceMatches u (text f) 0 none)).map cells
        = (specWords u (cells f) [] []).tail.map Prod.fst := by
  have h := (scan_spec u (cells f) (cells f) [] rfl).2 0 (Nat.le_refl _)
  have h0 := scan_start u (cells f) (text f)
  simp only [List.length_nil, List.drop_nil, ← text_eq_cells, if_true] at h
  rw [← h0.1, ← h0.2, cells_length] at h
  constructor
  · rw [← h.1, ← zip_eq_wordSpans]
    simp only [linesplitWords, wordCells, List.map_map, Function.comp_def, getslice_cells]
    rfl
  · rw [← h.2]
    simp only [linesplitSpaces, gapCells, List.map_map, Function.comp_def, getslice_cells, cells_length]
    rfl

private theorem specWords_allspace (u : UEnv) (suf gap word : List Cell) (hw : word = [])
    (h : ∀ x ∈ suf, u.isSpace x.1 = true) : specWords u suf gap word = [] := by
  fun_induction specWords u suf gap word with
  | case1 => rfl
  | case2 gap word he => exact absurd (by rw [hw]; rfl) he
  | case3 x rest gap word hs he ih => exact ih rfl fun y hy => h y (List.mem_cons_of_mem _ hy)
  | case4 x rest gap word hs he ih => exact absurd (by rw [hw]; rfl) he
  | case5 x rest gap word hs ih => exact absurd (h x (List.mem_cons_self ..)) hs

/-- Text without a word (empty, or whitespace only) gives no lines - for every `columns`, no exception. -/
theorem C16_wordless (u : UEnv) (f : FmtStr) (columns : Nat) (h : ∀ c ∈ text f, u.isSpace c = true) :
    linesplit u f columns = .ok [] := by
  rw [text_eq_cells, List.forall_mem_map] at h
  have hw := (words_spaces_spec u f).1
  rw [specWords_allspace u _ _ _ rfl h] at hw
  simp only [linesplit, List.map_eq_nil_iff.mp hw]

private theorem pieces_flatten {α} (w : List α) (c q : Nat) :
    ((List.range q).map fun i => (w.take (c * (i + 1))).drop (c * i)).flatten = w.take (c * q) := by
  induction q with
  | zero => simp
  | succ q ih =>
    rw [List.range_succ, List.map_append, List.flatten_append, ih]
    simp only [List.map_cons, List.map_nil, List.flatten_cons, List.flatten_nil, List.append_nil]
    have : w.take (c * q) = (w.take (c * (q + 1))).take (c * q) := by
      rw [List.take_take, Nat.min_eq_left (Nat.mul_le_mul_left c (Nat.le_succ q))]
    rw [this, List.take_append_drop]

private theorem wordToLines_chopped {columns : Nat} (hc : 1 ≤ columns) (word : FmtStr) (hw : cells word ≠ []) :
    ∃ ls0 lastF, wordToLines columns word = .ok (ls0 ++ [lastF]) ∧
      Chopped columns (cells word) (ls0.map cells) (cells lastF) := by
  have hw : 0 < len word := cells_length word ▸ List.length_pos_iff.mpr hw
  refine ⟨(List.range ((len word - 1) / columns)).map fun i => getslice word (columns * i) (columns * (i + 1)),
    getslice word (columns * ((len word - 1) / columns)) (columns * ((len word - 1) / columns + 1)), ?_, ?_⟩
  · -- the number of pieces, computed in `Int`, is the natural number `(len word - 1) / columns + 1`
    have hk : ((((len word : Nat) : Int) - 1) / (columns : Int) + 1).toNat = (len word - 1) / columns + 1 := by
      rw [← Int.toNat_natCast ((len word - 1) / columns + 1), Int.natCast_add, Int.natCast_ediv, Int.natCast_sub hw]
      rfl
    unfold wordToLines
    rw [if_neg (Nat.ne_of_gt hc), hk, List.range_succ, List.map_append]
    rfl
  · -- the last piece begins inside the word and reaches its end
    have hq1 : columns * ((len word - 1) / columns) < len word :=
      Nat.lt_of_le_of_lt (Nat.mul_div_le _ _) (Nat.sub_lt hw Nat.one_pos)
    have hq2 : len word ≤ columns * ((len word - 1) / columns + 1) :=
      Nat.le_of_pred_lt (Nat.lt_mul_div_succ _ hc)
    generalize (len word - 1) / columns = q at hq1 hq2
    rw [← cells_length] at hq1 hq2
    have hmap : ((List.range q).map fun i => getslice word (columns * i) (columns * (i + 1))).map cells
        = (List.range q).map fun i => ((cells word).take (columns * (i + 1))).drop (columns * i) := by
      simp only [List.map_map, Function.comp_def, getslice_cells]
    rw [hmap, getslice_cells, List.take_of_length_le hq2]
    refine ⟨?_, List.forall_mem_map.mpr fun i hi => ?_, ?_, ?_⟩
    · rw [pieces_flatten]
      exact (List.take_append_drop _ _).symm
    · -- a full piece ends at or before `columns * q`, inside the word
      have hi' : columns * (i + 1) ≤ columns * q := Nat.mul_le_mul_left columns (List.mem_range.mp hi)
      have hin : columns * (i + 1) ≤ (cells word).length := by omega
      rw [List.length_drop, List.length_take, Nat.min_eq_left hin, Nat.mul_succ, Nat.add_sub_cancel_left]
    · rw [List.length_drop]
      exact Nat.sub_pos_of_lt hq1
    · rw [List.length_drop, Nat.sub_le_iff_le_add', ← Nat.mul_succ]
      exact hq2

theorem gapAtts_get {L : List Cell} (h : L ≠ []) (k : Key) (v : NVal) :
    (gapAtts L).get k = some v ↔ ∀ p ∈ L, p.2.get k = some v := by
  obtain ⟨x, xs, rfl⟩ := List.exists_cons_of_ne_nil h
  rw [gapAtts, get_foldl_inter Prod.snd, List.forall_mem_cons]

theorem sharedAtts_eq_gapAtts (f : FmtStr) (h : cells f ≠ []) :
    sharedAtts f = .ok (gapAtts (cells f)) := by
  obtain ⟨sh, hsh, hget⟩ := sharedAtts_get f h
  rw [hsh]
  congr 1
  exact Atts.ext_get fun k => Option.ext fun v => by rw [hget, gapAtts_get h]

private theorem linesplitLoop_greedy (columns : Nat) (hc : 1 ≤ columns) (pairs : List (FmtStr × FmtStr))
    (hp : ∀ p ∈ pairs, cells p.1 ≠ [] ∧ cells p.2 ≠ []) (done : List FmtStr) (cur : FmtStr) :
    ∃ result out, linesplitLoop columns (done ++ [cur]) pairs = .ok result ∧
      result.map cells = done.map cells ++ out ∧
      Greedy columns (cells cur) (pairs.map fun p => (cells p.1, gapAtts (cells p.2))) out := by
  induction pairs generalizing done cur with
  | nil => exact ⟨done ++ [cur], [cells cur], rfl, by simp, Greedy.done _⟩
  | cons p rest ih =>
    obtain ⟨word, space⟩ := p
    have ⟨⟨hw, hs⟩, hrest⟩ := List.forall_mem_cons.mp hp
    unfold linesplitLoop
    rw [List.getLast?_concat]
    simp only [List.map_cons]
    by_cases hfit : len cur + len word < columns
    · rw [if_pos hfit, sharedAtts_eq_gapAtts space hs]
      simp only [bind, Except.bind, List.dropLast_concat]
      obtain ⟨result, out, h1, h2, h3⟩ := ih hrest done (add (add cur (spaceFmt (gapAtts (cells space)))) word)
      refine ⟨result, out, h1, h2, ?_⟩
      apply Greedy.join
      · rw [cells_length, cells_length]; omega
      · have : cells (add (add cur (spaceFmt (gapAtts (cells space)))) word)
            = cells cur ++ (' ', gapAtts (cells space)) :: cells word := by
          simp [add, spaceFmt, Chunk.cells]
        rwa [this] at h3
    · rw [if_neg hfit]
      obtain ⟨ls0, lastF, hl, hch⟩ := wordToLines_chopped hc word hw
      rw [hl]
      simp only [bind, Except.bind]
      obtain ⟨result, out, h1, h2, h3⟩ := ih hrest (done ++ [cur] ++ ls0) lastF
      rw [← List.append_assoc]
      refine ⟨result, cells cur :: (ls0.map cells ++ out), h1, ?_, ?_⟩
      · rw [h2]; simp
      · apply Greedy.wrap ?_ hch h3
        rw [cells_length, cells_length]; omega

/-- every word of the specification is non-empty and free of whitespace -/
theorem specWords_clean (u : UEnv) (suf gap word : List Cell) (hw : ∀ x ∈ word, u.isSpace x.1 = false) :
    ∀ p ∈ specWords u suf gap word, p.2 ≠ [] ∧ ∀ x ∈ p.2, u.isSpace x.1 = false := by
  fun_induction specWords u suf gap word with
  | case1 => simp
  | case2 gap word he => exact List.forall_mem_singleton.mpr ⟨mt List.isEmpty_iff.mpr he, hw⟩
  | case3 x rest gap word hs he ih => exact ih (by simp)
  | case4 x rest gap word hs he ih =>
    exact List.forall_mem_cons.mpr ⟨⟨mt List.isEmpty_iff.mpr he, hw⟩, ih (by simp)⟩
  | case5 x rest gap word hs ih =>
    exact ih (List.forall_mem_append.mpr ⟨hw, List.forall_mem_singleton.mpr (Bool.eq_false_iff.mpr hs)⟩)

/-- once the gap being read is non-empty every gap is -/
theorem specWords_gap_ne (u : UEnv) (suf gap word : List Cell) (hg : gap ≠ []) :
    ∀ p ∈ specWords u suf gap word, p.1 ≠ [] := by
  fun_induction specWords u suf gap word with
  | case1 => simp
  | case2 gap word he => exact List.forall_mem_singleton.mpr hg
  | case3 x rest gap word hs he ih => exact ih (by simp)
  | case4 x rest gap word hs he ih => exact List.forall_mem_cons.mpr ⟨hg, ih (by simp)⟩
  | case5 x rest gap word hs ih => exact ih hg

/-- Only the first gap, the leading whitespace, can be empty. -/
theorem specWords_tail_gap_ne (u : UEnv) (suf gap word : List Cell) :
    ∀ p ∈ (specWords u suf gap word).tail, p.1 ≠ [] := by
  fun_induction specWords u suf gap word with
  | case1 => simp
  | case2 => simp
  | case3 x rest gap word hs he ih => exact ih
  | case4 x rest gap word hs he ih => exact specWords_gap_ne u rest _ _ (by simp)
  | case5 x rest gap word hs ih => exact ih

/-- zipping words and gaps gives back the pairs they are the projections of -/
private theorem zip_map_eq {α β γ δ ε} {ws : List α} {sp : List β} {rest : List (γ × δ)} {fw : α → δ}
    {fs : β → γ} (g : γ → ε) (h1 : ws.map fw = rest.map Prod.snd) (h2 : sp.map fs = rest.map Prod.fst) :
    (List.zip ws sp).map (fun p => (fw p.1, g (fs p.2))) = rest.map fun p => (p.2, g p.1) := by
  have hpair : (fun p : α × β => (fw p.1, g (fs p.2))) = Prod.map fw (g ∘ fs) := rfl
  rw [hpair, ← List.zip_map, ← List.map_map, h1, h2, List.map_map, List.zip_map']
  rfl

/-- `C16_full_statement` with its case distinction spelled out and without its hypothesis on `u`. -/
theorem linesplit_spec (u : UEnv) (f : FmtStr) (columns : Nat) (hc : 1 ≤ columns) :
    ∃ lines, linesplit u f columns = .ok lines ∧
      (specWords u (cells f) [] [] = [] ∧ lines = [] ∨
        ∃ g0 w0 rest full last out, specWords u (cells f) [] [] = (g0, w0) :: rest ∧
          Chopped columns w0 full last ∧
          Greedy columns last (rest.map fun p => (p.2, gapAtts p.1)) out ∧
          lines.map cells = full ++ out) := by
  obtain ⟨hW, hS⟩ := words_spaces_spec u f
  have hword : ∀ w ∈ linesplitWords f (spaceMatches u (text f) 0 none), cells w ≠ [] := by
    rw [← List.forall_mem_map (P := (· ≠ [])), hW, List.forall_mem_map]
    exact fun p hp => (specWords_clean u (cells f) [] [] (by simp) p hp).1
  have hgap : ∀ s ∈ linesplitSpaces f (spaceMatches u (text f) 0 none), cells s ≠ [] := by
    rw [← List.forall_mem_map (P := (· ≠ [])), hS, List.forall_mem_map]
    exact specWords_tail_gap_ne u (cells f) [] []
  simp only [linesplit]
  cases hw : linesplitWords f (spaceMatches u (text f) 0 none) with
  | nil =>
    rw [hw] at hW
    exact ⟨[], rfl, Or.inl ⟨List.map_eq_nil_iff.mp hW.symm, rfl⟩⟩
  | cons w0 ws =>
    rw [hw] at hW hword
    cases hP : specWords u (cells f) [] [] with
    | nil => rw [hP] at hW; simp at hW
    | cons p0 rest =>
      obtain ⟨g0, c0⟩ := p0
      rw [hP] at hW hS
      simp only [List.map_cons, List.cons.injEq, List.tail_cons] at hW hS
      simp only []
      obtain ⟨ls0, lastF, hl, hch⟩ := wordToLines_chopped hc w0 (hword w0 (List.mem_cons_self ..))
      rw [hl]
      simp only [bind, Except.bind]
      obtain ⟨result, out, h1, h2, h3⟩ := linesplitLoop_greedy columns hc _ (fun p hp =>
        ⟨hword p.1 (List.mem_cons_of_mem _ (List.of_mem_zip hp).1), hgap p.2 (List.of_mem_zip hp).2⟩) ls0 lastF
      refine ⟨result, h1, Or.inr ⟨g0, c0, rest, ls0.map cells, cells lastF, out, rfl, ?_, ?_, h2⟩⟩
      · rw [← hW.1]; exact hch
      · rwa [zip_map_eq gapAtts hW.2 hS] at h3

theorem C16_full : C16_full_statement := by
  intro u f columns hc _
  obtain ⟨lines, h, h0 | ⟨g0, w0, rest, full, last, out, hP, h2⟩⟩ := linesplit_spec u f columns hc
  · exact ⟨lines, h, by rw [h0.1]; exact h0.2⟩
  · exact ⟨lines, h, by rw [hP]; exact ⟨full, last, out, h2⟩⟩

/-- `linesplit` raises nothing for `columns ≥ 1` (whatever the Unicode environment and the run layout). -/
theorem C16_total (u : UEnv) (f : FmtStr) (columns : Nat) (hc : 1 ≤ columns) :
    ∃ lines, linesplit u f columns = .ok lines :=
  let ⟨lines, h, _⟩ := linesplit_spec u f columns hc
  ⟨lines, h⟩

/-- Every line satisfies `P` if `P` survives a join and holds of the pieces of a chopped word (`Q`: what is known of the
    words). -/
theorem Greedy.forall {P Q : List Cell → Prop} {columns : Nat} {cur : List Cell} {pairs : List (List Cell × Atts)}
    {out : List (List Cell)} (h : Greedy columns cur pairs out) (hcur : P cur) (hQ : ∀ p ∈ pairs, Q p.1)
    (hjoin : ∀ cur w a, P cur → Q w → cur.length + 1 + w.length ≤ columns → P (cur ++ (' ', a) :: w))
    (hchop : ∀ w full last, Q w → Chopped columns w full last → (∀ l ∈ full, P l) ∧ P last) :
    ∀ l ∈ out, P l := by
  induction h with
  | done cur => exact List.forall_mem_singleton.mpr hcur
  | @join cur w a rest out hfit _ ih =>
    have ⟨hw, hrest⟩ := List.forall_mem_cons.mp hQ
    exact ih (hjoin cur w a hcur hw hfit) hrest
  | @wrap cur w last a rest full out _ hch _ ih =>
    have ⟨hw, hrest⟩ := List.forall_mem_cons.mp hQ
    have ⟨hfull, hlast⟩ := hchop w full last hw hch
    exact List.forall_mem_cons.mpr ⟨hcur, List.forall_mem_append.mpr ⟨hfull, ih hlast hrest⟩⟩

/-- The same for the lines of `linesplit`, `Q` holding of the words of `f`. -/
theorem linesplit_forall {P Q : List Cell → Prop} (u : UEnv) (f : FmtStr) (columns : Nat) (hc : 1 ≤ columns)
    (hQ : ∀ p ∈ specWords u (cells f) [] [], Q p.2)
    (hjoin : ∀ cur w a, P cur → Q w → cur.length + 1 + w.length ≤ columns → P (cur ++ (' ', a) :: w))
    (hchop : ∀ w full last, Q w → Chopped columns w full last → (∀ l ∈ full, P l) ∧ P last) :
    ∃ lines, linesplit u f columns = .ok lines ∧ ∀ l ∈ lines, P (cells l) := by
  obtain ⟨lines, h1, h2⟩ := linesplit_spec u f columns hc
  refine ⟨lines, h1, ?_⟩
  rcases h2 with ⟨_, rfl⟩ | ⟨g0, w0, rest, full, last, out, hP, hch, hg, hl⟩
  · simp
  · rw [hP] at hQ
    have ⟨hw0, hrest⟩ := List.forall_mem_cons.mp hQ
    have ⟨hfull, hlast⟩ := hchop w0 full last hw0 hch
    have hout := hg.forall hlast (List.forall_mem_map.mpr hrest) hjoin hchop
    exact fun l hl2 => List.forall_mem_append.mpr ⟨hfull, hout⟩ _ (hl ▸ List.mem_map_of_mem hl2)

/-- no line is longer than `columns` -/
theorem C16_len (u : UEnv) (f : FmtStr) (columns : Nat) (lines : List FmtStr)
    (h : linesplit u f columns = .ok lines) : ∀ l ∈ lines, len l ≤ columns := by
  by_cases hc : 1 ≤ columns
  · obtain ⟨lines', h1, h2⟩ := linesplit_forall (P := fun l => l.length ≤ columns) (Q := fun _ => True) u f columns hc
      (fun _ _ => trivial) (fun cur w a hcur _ hfit => by simp; omega)
      (fun _ full last _ hch => ⟨fun l hl => Nat.le_of_eq (hch.2.1 l hl), hch.2.2.2⟩)
    obtain rfl : lines = lines' := Except.ok.inj (h.symm.trans h1)
    exact fun l hl => cells_length l ▸ h2 l hl
  · -- `columns = 0`: the first word already raises
    obtain rfl : columns = 0 := Nat.eq_zero_of_not_pos hc
    simp only [linesplit] at h
    cases hw : linesplitWords f (spaceMatches u (text f) 0 none) with
    | nil => rw [hw] at h; injection h with h; subst h; simp
    | cons w0 ws => rw [hw] at h; simp [wordToLines, bind, Except.bind] at h

/-- the cell holds a non-whitespace character: the cells `C16_words_kept` is about -/
def nsp (u : UEnv) (x : Cell) : Bool := !u.isSpace x.1

theorem specWords_filter (u : UEnv) (suf gap word : List Cell) :
    ((specWords u suf gap word).flatMap Prod.snd).filter (nsp u) = (word ++ suf).filter (nsp u) := by
  fun_induction specWords u suf gap word with
  | case1 gap word he => rw [List.isEmpty_iff.mp he]; rfl
  | case2 gap word he => simp
  | case3 x rest gap word hs he ih =>
    rw [ih, List.isEmpty_iff.mp he, List.nil_append, List.nil_append,
      List.filter_cons_of_neg (by simp [nsp, hs])]
  | case4 x rest gap word hs he ih =>
    rw [List.flatMap_cons, List.filter_append, ih, List.nil_append, List.filter_append,
      List.filter_cons_of_neg (by simp [nsp, hs])]
  | case5 x rest gap word hs ih => rw [ih]; simp

theorem Greedy.filter {u : UEnv} {columns : Nat} {cur : List Cell} {pairs : List (List Cell × Atts)}
    {out : List (List Cell)} (h : Greedy columns cur pairs out) (hsp : u.isSpace ' ' = true) :
    out.flatten.filter (nsp u) = (cur ++ pairs.flatMap Prod.fst).filter (nsp u) := by
  induction h with
  | done cur => simp
  | @join cur w a rest out _ _ ih =>
    rw [ih]
    have : nsp u (' ', a) = false := by simp [nsp, hsp]
    simp [this]
  | @wrap cur w last a rest full out _ hch _ ih =>
    simp only [List.flatten_cons, List.flatten_append, List.filter_append, ih, List.flatMap_cons]
    rw [hch.1]
    simp [List.filter_append]

/-- a line that is non-empty and neither starts nor ends with whitespace -/
def CleanLine (u : UEnv) (l : List Cell) : Prop :=
  l ≠ [] ∧ (∀ x, l.head? = some x → u.isSpace x.1 = false) ∧ (∀ x, l.getLast? = some x → u.isSpace x.1 = false)

theorem cleanLine_of_allns {u : UEnv} {l : List Cell} (h0 : l ≠ []) (h : ∀ x ∈ l, u.isSpace x.1 = false) :
    CleanLine u l :=
  ⟨h0, fun x hx => h x (List.mem_of_head? hx), fun x hx => h x (List.mem_of_getLast? hx)⟩

theorem Chopped.clean {u : UEnv} {columns : Nat} {w last : List Cell} {full : List (List Cell)}
    (hch : Chopped columns w full last) (hc : 1 ≤ columns) (hw : ∀ x ∈ w, u.isSpace x.1 = false) :
    (∀ l ∈ full, CleanLine u l) ∧ CleanLine u last := by
  obtain ⟨rfl, hfull, hpos, _⟩ := hch
  exact ⟨fun l hl => cleanLine_of_allns (List.length_pos_iff.mp (hfull l hl ▸ hc))
      fun x hx => hw x (List.mem_append_left _ (List.mem_flatten.mpr ⟨l, hl, hx⟩)),
    cleanLine_of_allns (List.length_pos_iff.mp hpos) fun x hx => hw x (List.mem_append_right _ hx)⟩

theorem CleanLine.join {u : UEnv} {cur w : List Cell} (hcur : CleanLine u cur)
    (hw : w ≠ [] ∧ ∀ x ∈ w, u.isSpace x.1 = false) (a : Atts) : CleanLine u (cur ++ (' ', a) :: w) := by
  obtain ⟨c, cs, rfl⟩ := List.exists_cons_of_ne_nil hcur.1
  obtain ⟨y, ys, rfl⟩ := List.exists_cons_of_ne_nil hw.1
  refine ⟨by simp, fun x hx => hcur.2.1 x (by simpa using hx), fun x hx => hw.2 x (List.mem_of_getLast? ?_)⟩
  rw [List.getLast?_append, List.getLast?_cons_cons, List.getLast?_cons] at hx
  rw [List.getLast?_cons]; exact hx

/-- No returned line is empty, starts with whitespace or ends with whitespace (`columns ≥ 1`). -/
theorem C16_clean_lines (u : UEnv) (f : FmtStr) (columns : Nat) (hc : 1 ≤ columns)
    (hsp : u.isSpace ' ' = true) :
    ∃ lines, linesplit u f columns = .ok lines ∧ ∀ l ∈ lines, CleanLine u (cells l) :=
  linesplit_forall u f columns hc (specWords_clean u (cells f) [] [] (by simp))
    (fun _ _ a hcur hw _ => hcur.join hw a) (fun _ _ _ hw hch => hch.clean hc hw.2)

/-- Nothing but whitespace is lost, added, reordered or restyled: the non-whitespace cells of the lines, in order,
    are the non-whitespace cells of the text (characters with their formatting). -/
theorem C16_words_kept (u : UEnv) (f : FmtStr) (columns : Nat) (hc : 1 ≤ columns)
    (hsp : u.isSpace ' ' = true) :
    ∃ lines, linesplit u f columns = .ok lines ∧
      (lines.flatMap cells).filter (nsp u) = (cells f).filter (nsp u) := by
  obtain ⟨lines, h1, h2⟩ := linesplit_spec u f columns hc
  refine ⟨lines, h1, Eq.trans ?_ (specWords_filter u (cells f) [] [])⟩
  rcases h2 with ⟨h0, rfl⟩ | ⟨g0, w0, rest, full, last, out, hP, hch, hg, hl⟩
  · rw [h0]; rfl
  · rw [hP, List.flatMap_def, hl, List.flatten_append, List.filter_append, hg.filter hsp]
    simp only [List.flatMap_cons, List.filter_append]
    rw [hch.1, List.filter_append, List.append_assoc, List.flatMap_map]

/-! ### non-vacuity / examples (whitespace of three kinds, formatting changing inside a gap) -/

example : (match linesplit exEnv [⟨[' ', 'a', 'b', ' '], {fg := some 1, bold := some true}⟩,
      ⟨['\t', 'c', '\n'], {fg := some 1}⟩, ⟨['d', 'e', 'f', 'g'], {}⟩] 3 with
    | .ok ls => ls == [[⟨['a', 'b'], {fg := some 1, bold := some true}⟩],
                       [⟨['c'], {fg := some 1}⟩], [⟨['d', 'e', 'f'], {}⟩], [⟨['g'], {}⟩]]
    | _ => false) = true := by decide +kernel

example : (match linesplit exEnv [⟨[' ', 'a', 'b', ' '], {fg := some 1, bold := some true}⟩,
      ⟨['\t', 'c', '\n'], {fg := some 1}⟩, ⟨['d'], {}⟩] 4 with
    | .ok ls => ls == [[⟨['a', 'b'], {fg := some 1, bold := some true}⟩, ⟨[' '], {fg := some 1}⟩, ⟨['c'], {fg := some 1}⟩],
                       [⟨['d'], {}⟩]]
    | _ => false) = true := by decide +kernel

example : specWords exEnv (cells [⟨[' ', 'a', ' '], {}⟩, ⟨['\t', 'c', '\n'], {fg := some 1}⟩]) [] []
    = [([(' ', {})], [('a', {})]), ([(' ', {}), ('\t', {fg := some 1})], [('c', {fg := some 1})])] := by
  decide +kernel

end Curtsies
