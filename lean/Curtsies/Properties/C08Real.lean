/-
  C08 for the modelled decoder: the witnesses of D15 / D12 / D35 and the input-level no-loss corollary, instantiated
  with `getKeyUtf8` - the transcription of `events.get_key(bytes, 'utf-8', Keynames.BYTES, full)` over the REGENERATED
  key tables (Driver/Input.lean; validated against the live `get_key` by the tie C08/getkey on every run) - and the
  live constants READ_SIZE / MAX_KEYPRESS_SIZE / default paste_threshold.
-/
import Curtsies.Properties.C08
import Curtsies.Driver.Input
namespace Curtsies
open Curtsies.Input Curtsies.Driver.InputSim

def realParams : Params :=
  { readSize := Generated.InputKeys.readSize, maxKey := Generated.InputKeys.maxKeypressSize,
    pasteThreshold := Generated.InputKeys.defaultPasteThreshold, hasWake := true }

/-- D15 with the real decoder: `e2 82` at t=0, `ac` at t=1 -> ValueError, both bytes gone. -/
theorem C08_D15_witness_real :
    let r := send realParams getKeyUtf8 id 10 ({} : InSt Nat) [(0, .arrive [0xe2, 0x82]), (1, .arrive [0xac])] none
    (match r.1 with | .error (.py .valueError) => true | _ => false) = true ∧
      r.2.1.unprocessed = [] ∧ r.2.1.osbuf = [] ∧ r.2.2.length = 1 := by
  decide +kernel

/-- D12 with the real decoder: Esc and 'é' together -> UnicodeDecodeError, `1b c3` gone, `a9` left. -/
theorem C08_D12_witness_real :
    let r := send realParams getKeyUtf8 id 10 ({} : InSt Nat) [(0, .arrive [0x1b, 0xc3, 0xa9])] (some 0)
    (match r.1 with | .error (.py .unicodeDecodeError) => true | _ => false) = true ∧
      r.2.1.unprocessed = [0xa9] ∧ r.2.1.osbuf = [] := by
  decide +kernel

/-- D35 with the real decoder: `c3 41` -> UnicodeDecodeError, the valid 'A' gone too. -/
theorem C08_D35_witness_real :
    let r := send realParams getKeyUtf8 id 10 ({} : InSt Nat) [(0, .arrive [0xc3, 0x41])] (some 0)
    (match r.1 with | .error (.py .unicodeDecodeError) => true | _ => false) = true ∧
      r.2.1.unprocessed = [] ∧ r.2.1.osbuf = [] := by
  decide +kernel

/-- the same bytes arriving whole come back as one keypress (the hypotheses of the partial theorems are inhabited) -/
theorem C08_whole_character_real :
    (match (send realParams getKeyUtf8 id 10 ({} : InSt Nat) [(0, .arrive [0xe2, 0x82, 0xac])] none).1 with
     | .ok (some (.key k bs)) => k == [0xe2, 0x82, 0xac] && bs == [0xe2, 0x82, 0xac] | _ => false) = true := by
  decide +kernel

/-- INPUT-LEVEL NO-LOSS for the modelled decoder (utf-8, Keynames.BYTES): streams made of complete keypresses. -/
theorem C08_no_loss_real (wf : Nat) (st : InSt Nat) (ag : Agenda Nat) (timeout : Option Time)
    (hu : Units getKeyUtf8 id realParams.maxKey st.unprocessed) (ho : Units getKeyUtf8 id realParams.maxKey st.osbuf)
    (ha : PayloadUnits getKeyUtf8 id realParams.maxKey ag) :
    ∀ e, (send realParams getKeyUtf8 id wf st ag timeout).1 ≠ .error (.py e) :=
  C08_no_loss_wellformed realParams getKeyUtf8 id (by decide) wf st ag timeout hu ho ha

/-- complete keypresses for the modelled decoder: 'a', '€' (e2 82 ac), Up (ESC [ A) -/
theorem unit_a : IsUnit getKeyUtf8 id realParams.maxKey [0x61] [0x61] :=
  .of_takes (by decide) (by decide +kernel) (by decide +kernel)

theorem unit_euro : IsUnit getKeyUtf8 id realParams.maxKey [0xe2, 0x82, 0xac] [0xe2, 0x82, 0xac] :=
  .of_takes (by decide) (by decide +kernel) (by decide +kernel)

theorem unit_up : IsUnit getKeyUtf8 id realParams.maxKey [0x1b, 0x5b, 0x41] [0x1b, 0x5b, 0x41] :=
  .of_takes (by decide) (by decide +kernel) (by decide +kernel)

/-- Non-vacuity of `C08_no_loss_real`: the stream "a € Up a" is made of complete keypresses. -/
theorem C08_units_example_real :
    Units getKeyUtf8 id realParams.maxKey [0x61, 0xe2, 0x82, 0xac, 0x1b, 0x5b, 0x41, 0x61] :=
  Units.cons [0x61] _ _ unit_a (Units.cons [0xe2, 0x82, 0xac] _ _ unit_euro
    (Units.cons [0x1b, 0x5b, 0x41] _ _ unit_up (Units.cons [0x61] [] _ unit_a Units.nil)))

end Curtsies
