/-
  C04 (extension) - `BaseWindow.array_from_text_rc(msg, rows, columns)` (window.py; `array_from_text(msg)` is the same
  with the terminal's height and width), modelled on top of the FSArray model (`FSArray.arrayFromTextRc`: one
  `arr[i // width, i % width] = [fmtstr(c)]` per character, CR and LF jump to the end of the row, stop at
  `rows * columns`).

  Meaning, against a list-level specification that has no cursor: `Spec.flatLayout W msg` splits the text at every
  CR / LF, pads every line but the last with blanks up to the next multiple of `W` STRICTLY beyond its end (a line
  break always moves to a fresh row: a full row followed by a break, and each of CR and LF in "\r\n", leave a blank
  row), and concatenates; `Spec.layoutFlat` truncates that to `rows * W` cells; cell (r, c) of the array shows element
  `r * W + c` (`C04_array_from_text_grid`), every character unformatted; no row is wider than `columns`, the array has
  at most `rows` rows and never raises (`columns = 0`: `i >= rows * 0` returns before `i // columns` is evaluated - no
  ZeroDivisionError; the result is the empty array). `Spec.layoutText` is the same as a list of `rows` rows of `W`
  characters (`C04_array_from_text_rows`).
  Hypothesis: `rows ≤ sys.maxsize` (the int row subscript is range-checked against it).
-/
import Curtsies.Properties.C04
namespace Curtsies
open FSArray Splice

namespace Spec
-- The list-level specification of the layout; in the namespace of Spec/ but stated here, where alone it is used.
def isBreak (c : Char) : Prop := c = '\r' ∨ c = '\n'
instance (c : Char) : Decidable (isBreak c) := by unfold isBreak; infer_instance

/-- The text split at every CR / LF (always at least one piece). -/
def splitBreaks : Text → List Text
  | [] => [[]]
  | c :: rest =>
    if isBreak c then [] :: splitBreaks rest
    else match splitBreaks rest with
      | l :: ls => (c :: l) :: ls
      | [] => [[c]]

/-- A line followed by a break, padded up to the next multiple of `W` strictly beyond its end. -/
def padLine (W : Nat) (l : Text) : List (Option Char) := l.map some ++ List.replicate (W - l.length % W) none

/-- The lines laid end to end (`none` = blank): every line but the last padded. -/
def flatLines (W : Nat) : List Text → List (Option Char)
  | [] => []
  | [l] => l.map some
  | l :: ls => padLine W l ++ flatLines W ls

def flatLayout (W : Nat) (msg : Text) : List (Option Char) := flatLines W (splitBreaks msg)

/-- What the `rows * W` cells of the window show, row-major. -/
def layoutFlat (msg : Text) (rows W : Nat) : List (Option Char) := (flatLayout W msg).take (rows * W)

/-- The same as `rows` rows of `W` characters (a blank shown as a space). -/
def layoutText (msg : Text) (rows W : Nat) : List (List Char) :=
  (List.range rows).map fun r => (List.range W).map fun c => (((layoutFlat msg rows W)[r * W + c]?).join).getD ' '
end Spec
open Spec

namespace FSArray

/-- What a cell of the flat layout shows. -/
def cellOf : Option (Option Char) → Cell
  | some (some ch) => (ch, {})
  | _ => blankCell

/-- The loop invariant: `written` is the flat layout of the text consumed so far, and the array shows it row-major. -/
structure TextInv (W rows : Nat) (arr : FSArr) (written : List (Option Char)) : Prop where
  wf : WF arr
  nc : arr.numColumns = W
  h : arr.rows.length ≤ rows
  g : ∀ r c, grid arr r c = if c < W then cellOf (written[r * W + c]?) else blankCell

theorem next_row (W i : Nat) (hW : 0 < W) : (i / W + 1) * W = i + (W - i % W) := by
  have h1 := Nat.mod_lt i hW
  have h2 := Nat.div_add_mod' i W
  rw [Nat.add_mul, Nat.one_mul]; omega

theorem cellOf_getD (x : Option (Option Char)) : cellOf x = cellOf (some (x.getD none)) := by
  cases x <;> rfl

theorem cellOf_append_none (written : List (Option Char)) (k p : Nat) :
    cellOf ((written ++ List.replicate k none)[p]?) = cellOf (written[p]?) := by
  rw [cellOf_getD, getD_append_replicate, ← cellOf_getD]

/-- Painting the one cell at flat position `p = written.length` is appending one element to the flat layout: a one-cell
    region changes exactly that cell, and `(p / W, p % W)` is the only `(r, c)` with `c < W` and `r * W + c = p`
    (`Nat.div_mod_unique`). -/
theorem paint_snoc (W : Nat) (hW : 0 < W) (g : Nat → Nat → Cell) (written : List (Option Char)) (ch : Char)
    (hg : ∀ r c, g r c = if c < W then cellOf (written[r * W + c]?) else blankCell) (r c : Nat) :
    C04_paint g (written.length / W) (written.length / W + 1) (written.length % W) (written.length % W + 1)
        [[(ch, {})]] r c
      = if c < W then cellOf ((written ++ [some ch])[r * W + c]?) else blankCell := by
  have hdm : written.length / W * W + written.length % W = written.length := Nat.div_add_mod' _ W
  have hmod : written.length % W < W := Nat.mod_lt _ hW
  unfold C04_paint
  by_cases hin : written.length / W ≤ r ∧ r < written.length / W + 1 ∧
      written.length % W ≤ c ∧ c < written.length % W + 1
  · have hr : r = written.length / W := Nat.le_antisymm (Nat.le_of_lt_succ hin.2.1) hin.1
    have hc : c = written.length % W := Nat.le_antisymm (Nat.le_of_lt_succ hin.2.2.2) hin.2.2.1
    have hp : r * W + c = written.length := by rw [hr, hc, hdm]
    rw [if_pos hin, if_pos (hc ▸ hmod), hp, List.getElem?_append_right (Nat.le_refl _)]
    simp [padCell, cellOf, hr, hc]
  · rw [if_neg hin, hg r c]
    by_cases hcw : c < W
    · rw [if_pos hcw, if_pos hcw]
      have hne : r * W + c ≠ written.length := by
        intro h
        have := (Nat.div_mod_unique hW (a := written.length) (c := c) (d := r)).mpr
          ⟨by rw [Nat.mul_comm, Nat.add_comm]; exact h, hcw⟩
        omega
      rcases Nat.lt_or_ge (r * W + c) written.length with hp | hp
      · rw [List.getElem?_append_left hp]
      · rw [List.getElem?_eq_none hp, List.getElem?_eq_none (by
          rw [List.length_append, List.length_singleton]; exact Nat.lt_of_le_of_ne hp (Ne.symm hne))]
    · rw [if_neg hcw, if_neg hcw]

/-- `flatLines` with the first line starting at position `pos` of its row. -/
def flatLinesFrom (W pos : Nat) : List Text → List (Option Char)
  | [] => []
  | [l] => l.map some
  | l :: ls => l.map some ++ List.replicate (W - (pos + l.length) % W) none ++ flatLines W ls

theorem flatLinesFrom_zero (W pos : Nat) (hp : pos % W = 0) (ls : List Text) :
    flatLinesFrom W pos ls = flatLines W ls := by
  match ls with
  | [] => rfl
  | [l] => rfl
  | l :: l2 :: ls =>
    simp only [flatLinesFrom, flatLines, padLine]
    rw [Nat.add_mod, hp, Nat.zero_add, Nat.mod_mod]

theorem splitBreaks_ne_nil (msg : Text) : splitBreaks msg ≠ [] := by
  induction msg with
  | nil => simp [splitBreaks]
  | cons c rest ih =>
    unfold splitBreaks
    split
    · simp
    · split <;> simp

theorem flatLinesFrom_cons (W pos : Nat) (hW : 0 < W) (c : Char) (rest : Text) :
    flatLinesFrom W pos (splitBreaks (c :: rest)) =
      if isBreak c then
        List.replicate (W - pos % W) none ++ flatLinesFrom W (pos + (W - pos % W)) (splitBreaks rest)
      else some c :: flatLinesFrom W (pos + 1) (splitBreaks rest) := by
  rw [splitBreaks]
  cases hs : splitBreaks rest with
  | nil => exact absurd hs (splitBreaks_ne_nil rest)
  | cons l ls =>
    by_cases hb : isBreak c
    · have hp : (pos + (W - pos % W)) % W = 0 := by
        rw [← next_row W pos hW]; exact Nat.mul_mod_left _ _
      rw [if_pos hb, if_pos hb, flatLinesFrom_zero W _ hp]
      simp [flatLinesFrom]
    · rw [if_neg hb, if_neg hb]
      cases ls with
      | nil => simp [flatLinesFrom]
      | cons l2 ls =>
        simp only [flatLinesFrom, List.map_cons, List.cons_append, List.length_cons]
        rw [show pos + 1 + l.length = pos + (l.length + 1) by omega]

/-- The loop keeps `TextInv`; the cursor `i` is the length of `written`. `flatLinesFrom W i (splitBreaks rest)` is what
    the rest adds: its first line is the line in progress, which goes on from column `i % W` (so its padding is counted
    from there), the later lines start rows of their own. -/
theorem arrayFromTextLoop_spec (md rows W : Nat) (hW : 0 < W) (hrows : rows ≤ maxsize) (rest : Text) :
    ∀ (arr : FSArr) (i : Nat) (written : List (Option Char)), TextInv W rows arr written → written.length = i →
      i ≤ rows * W →
      ∃ arr', arrayFromTextLoop md rows W arr i rest = .ok arr' ∧
        TextInv W rows arr' ((written ++ flatLinesFrom W i (splitBreaks rest)).take (rows * W)) := by
  induction rest with
  | nil =>
    intro arr i written inv hl hi
    refine ⟨arr, rfl, ?_⟩
    simp only [splitBreaks, flatLinesFrom, List.map_nil, List.append_nil]
    rw [List.take_of_length_le (by rw [hl]; exact hi)]; exact inv
  | cons c rest ih =>
    intro arr i written inv hl hi
    unfold arrayFromTextLoop
    by_cases hfull : i ≥ rows * W
    · rw [if_pos hfull]
      refine ⟨arr, rfl, ?_⟩
      rw [List.take_append_of_le_length (by rw [hl]; exact hfull), List.take_of_length_le (by rw [hl]; exact hi)]
      exact inv
    · rw [if_neg hfull]
      have hlt : i < rows * W := Nat.lt_of_not_ge hfull
      have hdiv : i / W < rows := Nat.div_lt_of_lt_mul (by rw [Nat.mul_comm]; exact hlt)
      have hmod : i % W < W := Nat.mod_lt i hW
      by_cases hb : c = '\r' ∨ c = '\n'
      · rw [if_pos hb]
        have hle : i + (W - i % W) ≤ rows * W := by
          rw [← next_row W i hW]; exact Nat.mul_le_mul_right W hdiv
        rw [Nat.sub_add_cancel (Nat.mul_pos (Nat.succ_pos _) hW), next_row W i hW]
        obtain ⟨arr', h1, h2⟩ := ih arr (i + (W - i % W)) (written ++ List.replicate (W - i % W) none)
          ⟨inv.wf, inv.nc, inv.h, fun r cc => by rw [inv.g r cc, cellOf_append_none]⟩
          (by rw [List.length_append, List.length_replicate, hl]) hle
        refine ⟨arr', h1, ?_⟩
        rw [flatLinesFrom_cons W i hW, if_pos (show isBreak c from hb), ← List.append_assoc]; exact h2
      · rw [if_neg hb]
        rw [toFmt_noEsc md (.str [c]) (by simp [NoEsc, hasEscBracket])]
        simp only [asFmt]
        simp only [inv.nc]
        obtain ⟨a', heq, hg, hh, hwf, hnc⟩ := C04_assign_int_partial md arr (i / W) (i % W) ⟨false, [.fmt [⟨[c], {}⟩]]⟩
          (.fmt [⟨[c], {}⟩]) inv.wf (Nat.lt_of_lt_of_le hdiv hrows) (by rw [inv.nc]; exact hmod) rfl (by simp [Operand.rawLen])
          (by simp [Operand.EscFree])
        rw [heq]
        simp only []
        obtain ⟨arr', h1, h2⟩ := ih a' (i + 1) (written ++ [some c])
          ⟨hwf, by rw [hnc, inv.nc], by rw [hh]; exact Nat.max_le.mpr ⟨inv.h, hdiv⟩, fun r cc => by
            rw [hg r cc]; subst hl
            exact paint_snoc W hW (grid arr) written c inv.g r cc⟩
          (by rw [List.length_append, hl]; rfl) hlt
        refine ⟨arr', h1, ?_⟩
        rw [flatLinesFrom_cons W i hW, if_neg (show ¬ isBreak c from hb), List.append_cons]; exact h2

theorem cellOf_eq (x : Option (Option Char)) : cellOf x = ((x.join).getD ' ', {}) := by
  rcases x with _ | _ | ch <;> rfl

end FSArray
open FSArray

/-- `array_from_text_rc(msg, rows, columns)` never raises; the array is `columns` wide, has at most `rows` rows, none
    wider than `columns`; cell (r, c) shows element `r * columns + c` of `Spec.layoutFlat`, unformatted; every other
    cell is blank. -/
theorem C04_array_from_text_grid (md : Nat) (msg : Text) (rows W : Nat) (hrows : rows ≤ maxsize) :
    ∃ arr, arrayFromTextRc md msg rows W = .ok arr ∧ WF arr ∧ arr.numColumns = W ∧ arr.rows.length ≤ rows ∧
      ∀ r c, grid arr r c = if c < W then cellOf ((layoutFlat msg rows W)[r * W + c]?) else blankCell := by
  have hinit := C04_init 0 W {}
  rcases Nat.eq_zero_or_pos W with hW | hW
  · subst hW
    refine ⟨FSArr.init 0 0 {}, ?_, hinit.1, rfl, by simp [FSArr.init], ?_⟩
    · unfold arrayFromTextRc
      cases msg with
      | nil => rfl
      | cons c rest => unfold arrayFromTextLoop; simp
    · intro r c; rw [hinit.2.2.2 r c]; simp
  · obtain ⟨arr, h1, h2⟩ := arrayFromTextLoop_spec md rows W hW hrows msg (FSArr.init 0 W {}) 0 []
      ⟨hinit.1, rfl, by simp [FSArr.init], fun r c => by rw [hinit.2.2.2 r c]; simp [cellOf]⟩ rfl (Nat.zero_le _)
    refine ⟨arr, h1, h2.wf, h2.nc, h2.h, ?_⟩
    have : layoutFlat msg rows W = ([] ++ flatLinesFrom W 0 (splitBreaks msg)).take (rows * W) := by
      rw [List.nil_append, flatLinesFrom_zero W 0 (Nat.zero_mod W)]; rfl
    rw [this]; exact h2.g

/-- The same against `Spec.layoutText`: its row `r`, column `c` is the character cell (r, c) shows, unformatted. -/
theorem C04_array_from_text_rows (md : Nat) (msg : Text) (rows W : Nat) (hrows : rows ≤ maxsize) :
    ∃ arr, arrayFromTextRc md msg rows W = .ok arr ∧ (layoutText msg rows W).length = rows ∧
      ∀ r c, r < rows → c < W →
        ((layoutText msg rows W)[r]?.bind (·[c]?)) = some (grid arr r c).1 ∧ (grid arr r c).2 = {} := by
  obtain ⟨arr, h1, _, _, _, hg⟩ := C04_array_from_text_grid md msg rows W hrows
  refine ⟨arr, h1, by simp [layoutText], ?_⟩
  intro r c hr hc
  rw [hg r c, if_pos hc, cellOf_eq]
  simp [layoutText, hr, hc]

/-- Line breaks at concrete points: "ab\r\ncd" in 3 columns leaves a blank row between (CR and LF each jump), a full
    row followed by a break leaves a blank row too, and the text is cut at `rows * columns`. -/
example : layoutText ['a', 'b', '\r', '\n', 'c', 'd'] 3 3 = [['a', 'b', ' '], [' ', ' ', ' '], ['c', 'd', ' ']] := by
  decide
example : layoutText ['a', 'b', 'c', '\n', 'd', 'e', 'f', 'g'] 3 3 = [['a', 'b', 'c'], [' ', ' ', ' '], ['d', 'e', 'f']] := by
  decide
example : ((arrayFromTextRc 4300 ['a', 'b', '\r', '\n', 'c', 'd'] 3 3).toOption.map fun a => a.rows.map cells)
    = some [[('a', {}), ('b', {})], [], [('c', {}), ('d', {})]] := by decide +kernel

end Curtsies
