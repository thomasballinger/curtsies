/-
  C18 - Cursor position query parses the report exactly; movement is conserved.

  C18_parse     get_cursor_position on  pre ++ CSI ++ digits ++ ";" ++ digits ++ "R" ++ post:  returns (row-1, col-1),
                hands exactly `pre` to the callback (ValueError when there is none and pre is non-empty), leaves exactly
                `post` unread.
  C18_first_match   is about the SCANNER MODEL.  That the scanner is what the incremental `re.search` does is NOT a
                theorem: it rests on the prose argument in Model/Window.lean and on the correspondence check (every `pre`
                up to length 4/5 over the alphabet that partitions the regex's classes).
  C18_conserve  _get_cursor_vertical_diff_once: (change of top_usable_row) + returned = row - last known row;
                nothing changes when no row was known.  C18_once_exact gives the closed form of the two clamped loops.

  Hypotheses, all necessary: `pre` contains no complete look-alike report (the code could not tell it from the real
  one: C18_lookalike_witness); the digit-value function `dv` (Python's `\d`/`int`) gives no value to ESC, 0x9b, ';', 'R'
  (true of Unicode decimal digits; checked for the live `re` by the harness); no read returns '' before the report
  is complete (that raises ValueError: C18_empty_read).
-/
import Curtsies.Model.Window
import Curtsies.Proofs.Sgr
namespace Curtsies
open Window

/-- the row a round reports (0 for a failing query; only used for rounds known to report) -/
def Window.Round.rowD (rd : Round) : Int :=
  match rd.outcome with
  | .row r => r
  | .raises _ => 0

namespace C18
/-- the two introducers the regex accepts: `\x1b\[` and `\x9b` -/
def IsCsi (l : List Char) : Prop := l = [ESC, '['] ∨ l = [CSI8]
/-- a match of `\d+` -/
def Digits (dv : Char → Option Nat) (ds : List Char) : Prop := ds ≠ [] ∧ ∀ d ∈ ds, (dv d).isSome
/-- `int()` of a digit run, continuing from the value `acc` of the digits before it -/
def valueFrom (dv : Char → Option Nat) (acc : Nat) (ds : List Char) : Nat := ds.foldl (fun a d => a * 10 + (dv d).getD 0) acc
/-- `int(m.groupdict()["row"])`, `int(m.groupdict()["column"])` -/
def value (dv : Char → Option Nat) (ds : List Char) : Nat := valueFrom dv 0 ds
/-- a whole cursor report, `CSI row ; column R`: what the regex matches after its `.*` -/
def ReportShaped (dv : Char → Option Nat) (s : List Char) : Prop :=
  ∃ csi d1 d2, IsCsi csi ∧ Digits dv d1 ∧ Digits dv d2 ∧ s = csi ++ d1 ++ [';'] ++ d2 ++ ['R']
theorem ReportShaped.ne_nil {dv : Char → Option Nat} {s : List Char} (h : ReportShaped dv s) : s ≠ [] := by
  obtain ⟨csi, d1, d2, _, _, _, rfl⟩ := h
  simp

/-- no character of a report's frame counts as a digit (true of Python's `\d`): a digit run ends at `;` and at `R`, and
    no ESC or 0x9b hides inside one -/
structure SaneDigits (dv : Char → Option Nat) : Prop where
  esc : dv ESC = none
  csi8 : dv CSI8 = none
  semi : dv ';' = none
  r : dv 'R' = none

/-- the scanner's invariant: what `cand`, the input since the last CSI introducer, spells in each state.  `cand` is
    the one place a report can be forming: a report-shaped suffix of `resp` starts at its last ESC/0x9b ((2) of the
    argument above `Read` in Model/Window.lean). -/
def Cand (dv : Char → Option Nat) : Scan → List Char → Prop
  | .idle, cand => cand = []
  | .esc, cand => cand = [ESC]
  | .row none, cand => IsCsi cand
  | .row (some r), cand => ∃ csi ds, IsCsi csi ∧ Digits dv ds ∧ cand = csi ++ ds ∧ r = value dv ds
  | .col r none, cand => ∃ csi ds, IsCsi csi ∧ Digits dv ds ∧ cand = csi ++ ds ++ [';'] ∧ r = value dv ds
  | .col r (some c), cand => ∃ csi ds ds2, IsCsi csi ∧ Digits dv ds ∧ Digits dv ds2 ∧
      cand = csi ++ ds ++ [';'] ++ ds2 ∧ r = value dv ds ∧ c = value dv ds2

theorem digits_snoc {dv ds d n} (h : Digits dv ds) (hd : dv d = some n) :
    Digits dv (ds ++ [d]) ∧ value dv (ds ++ [d]) = value dv ds * 10 + n :=
  ⟨⟨by simp, List.forall_mem_append.mpr ⟨h.2, by simp [hd]⟩⟩, by simp [value, valueFrom, List.foldl_append, hd]⟩

theorem digits_single {dv d n} (hd : dv d = some n) : Digits dv [d] ∧ value dv [d] = n :=
  ⟨⟨by simp, by simp [hd]⟩, by simp [value, valueFrom, hd]⟩

/-- one character: the scanner goes on (`Cand` kept, `resp = extra ++ cand`), or the character completes a report -/
theorem scanStep_spec {dv} {s : ScanSt} {ch} (hc : Cand dv s.st s.cand) :
    match scanStep dv s ch with
    | .inl s' => Cand dv s'.st s'.cand ∧ s'.extra ++ s'.cand = s.extra ++ s.cand ++ [ch]
    | .inr _ => ReportShaped dv (s.cand ++ [ch]) := by
  unfold scanStep
  by_cases hE : ch = ESC
  · simp [hE, Cand]
  by_cases hC : ch = CSI8
  · subst hC
    simp [hE, Cand, IsCsi]
  simp only [if_neg hE, if_neg hC]
  rcases s with ⟨extra, cand, st⟩
  -- `simp [Cand]` closes the cases where the character fits nowhere: back to `idle`, `cand = []`
  cases st with
  | idle => simp [Cand]
  | esc =>
    simp only [Cand] at hc
    by_cases hb : ch = '['
    · subst hb; simp [Cand, IsCsi, hc]
    · simp [hb, Cand]
  | row r =>
    cases hd : dv ch with
    | some d =>
      cases r with
      | none =>
        simp only [Cand] at hc ⊢
        exact ⟨⟨cand, [ch], hc, (digits_single hd).1, rfl, by simp [(digits_single hd).2]⟩, by simp⟩
      | some r =>
        simp only [Cand] at hc ⊢
        obtain ⟨csi, ds, h1, h2, h3, h4⟩ := hc
        exact ⟨⟨csi, ds ++ [ch], h1, (digits_snoc h2 hd).1, by simp [h3], by simp [(digits_snoc h2 hd).2, h4]⟩, by simp⟩
    | none =>
      cases r with
      | none => simp [Cand]
      | some r =>
        by_cases hs : ch = ';'
        · subst hs
          simp only [Cand] at hc
          obtain ⟨csi, ds, h1, h2, h3, h4⟩ := hc
          simp only [if_true, Cand]
          exact ⟨⟨csi, ds, h1, h2, by simp [h3], h4⟩, by simp⟩
        · simp [hs, Cand]
  | col r c =>
    cases hd : dv ch with
    | some d =>
      cases c with
      | none =>
        simp only [Cand] at hc ⊢
        obtain ⟨csi, ds, h1, h2, h3, h4⟩ := hc
        exact ⟨⟨csi, ds, [ch], h1, h2, (digits_single hd).1, by simp [h3], h4, by simp [(digits_single hd).2]⟩, by simp⟩
      | some c =>
        simp only [Cand] at hc ⊢
        obtain ⟨csi, ds, ds2, h1, h2, h2', h3, h4, h5⟩ := hc
        exact ⟨⟨csi, ds, ds2 ++ [ch], h1, h2, (digits_snoc h2' hd).1, by simp [h3], h4,
          by simp [(digits_snoc h2' hd).2, h5]⟩, by simp⟩
    | none =>
      cases c with
      | none => simp [Cand]
      | some c =>
        by_cases hs : ch = 'R'
        · subst hs
          simp only [Cand] at hc
          obtain ⟨csi, ds, ds2, h1, h2, h2', h3, h4, h5⟩ := hc
          simp only [if_true]
          exact ⟨csi, ds, ds2, h1, h2, h2', by simp [h3]⟩
        · simp [hs, Cand]

/-- run the scanner over characters none of which completes a report -/
def scanAll (dv : Char → Option Nat) : ScanSt → List Char → Option ScanSt
  | s, [] => some s
  | s, ch :: cs => match scanStep dv s ch with
    | .inl s' => scanAll dv s' cs
    | .inr _ => none

theorem scanAll_append (dv : Char → Option Nat) (s : ScanSt) (a b : List Char) :
    scanAll dv s (a ++ b) = (scanAll dv s a).bind fun s' => scanAll dv s' b := by
  induction a generalizing s with
  | nil => simp [scanAll]
  | cons x xs ih =>
    simp only [List.cons_append, scanAll]
    cases scanStep dv s x with
    | inl s' => simp [ih]
    | inr _ => simp

theorem scanAll_no_report (dv : Char → Option Nat) (s : ScanSt) (cs : List Char) (hc : Cand dv s.st s.cand)
    (hno : ∀ a b c, s.extra ++ s.cand ++ cs = a ++ b ++ c → ¬ ReportShaped dv b) :
    ∃ s', scanAll dv s cs = some s' ∧ Cand dv s'.st s'.cand ∧ s'.extra ++ s'.cand = s.extra ++ s.cand ++ cs := by
  induction cs generalizing s with
  | nil => exact ⟨s, rfl, hc, by simp⟩
  | cons ch cs ih =>
    simp only [scanAll]
    have hstep := scanStep_spec (ch := ch) hc
    cases hs : scanStep dv s ch with
    | inr x =>
      rw [hs] at hstep
      exact absurd hstep (hno s.extra (s.cand ++ [ch]) cs (by simp))
    | inl s1 =>
      rw [hs] at hstep
      obtain ⟨hc1, hresp1⟩ := hstep
      obtain ⟨s', hs', hc', hresp'⟩ :=
        ih s1 hc1 (by rw [hresp1]; intro a b c hab; exact hno a b c (by simpa using hab))
      exact ⟨s', hs', hc', by rw [hresp', hresp1]; simp⟩

theorem scanAll_no_report_init (dv : Char → Option Nat) (cs : List Char)
    (hno : ∀ a b c, cs = a ++ b ++ c → ¬ ReportShaped dv b) :
    ∃ s', scanAll dv {} cs = some s' ∧ s'.extra ++ s'.cand = cs := by
  obtain ⟨s', h1, _, h2⟩ := scanAll_no_report dv {} cs rfl (by simpa using hno)
  exact ⟨s', h1, by simpa using h2⟩

theorem scanAll_csi (dv : Char → Option Nat) (s : ScanSt) (csi : List Char) (h : IsCsi csi) :
    scanAll dv s csi = some ⟨s.extra ++ s.cand, csi, .row none⟩ := by
  have h1 : CSI8 ≠ ESC := by decide
  have h2 : '[' ≠ ESC := by decide
  have h3 : '[' ≠ CSI8 := by decide
  rcases h with rfl | rfl
  · -- `ESC [`: two steps
    simp [scanAll, scanStep, h2, h3]
  · -- 0x9b: one step
    simp [scanAll, scanStep, h1]

theorem scanAll_semi (dv : Char → Option Nat) (hdv : SaneDigits dv) (e cand : List Char) (r : Nat) :
    scanAll dv ⟨e, cand, .row (some r)⟩ [';'] = some ⟨e, cand ++ [';'], .col r none⟩ := by
  have h1 : ';' ≠ ESC := by decide
  have h2 : ';' ≠ CSI8 := by decide
  simp [scanAll, scanStep, h1, h2, hdv.semi]

/-- a run of digits in the row field (`f = .row`) or the column field (`f = .col r`) -/
theorem scanAll_digits (dv : Char → Option Nat) (hdv : SaneDigits dv) (f : Option Nat → Scan)
    (hf : f = Scan.row ∨ ∃ r, f = Scan.col r) {e cand ds : List Char} {v : Option Nat} (hds : Digits dv ds) :
    scanAll dv ⟨e, cand, f v⟩ ds = some ⟨e, cand ++ ds, f (some (valueFrom dv (v.getD 0) ds))⟩ := by
  induction ds generalizing cand v with
  | nil => exact absurd rfl hds.1
  | cons d ds ih =>
    obtain ⟨n, hn⟩ := Option.isSome_iff_exists.mp (hds.2 d List.mem_cons_self)
    have hE : d ≠ ESC := fun h => by rw [h, hdv.esc] at hn; cases hn
    have hC : d ≠ CSI8 := fun h => by rw [h, hdv.csi8] at hn; cases hn
    have step : scanStep dv ⟨e, cand, f v⟩ d = .inl ⟨e, cand ++ [d], f (some (v.getD 0 * 10 + n))⟩ := by
      rcases hf with rfl | ⟨r, rfl⟩ <;> simp only [scanStep, if_neg hE, if_neg hC, hn]
    simp only [scanAll, step]
    by_cases hnil : ds = []
    · subst hnil; simp [scanAll, valueFrom, hn]
    · rw [ih ⟨hnil, fun x hx => hds.2 x (List.mem_cons_of_mem _ hx)⟩]
      simp [valueFrom, hn]

def chars : List Read → List Char
  | [] => []
  | .char c :: rest => c :: chars rest
  | _ :: rest => chars rest

theorem chars_append (a b : List Read) : chars (a ++ b) = chars a ++ chars b := by
  induction a with
  | nil => rfl
  | cons x xs ih => cases x <;> simp [chars, ih]

/-- OSErrors are invisible: the loop over events is the scanner over their characters -/
theorem gcpLoop_scanAll (dv : Char → Option Nat) (cb : Bool) (evs tail : List Read) (s s' : ScanSt)
    (hne : Read.empty ∉ evs) (h : scanAll dv s (chars evs) = some s') :
    gcpLoop dv cb s (evs ++ tail) = gcpLoop dv cb s' tail := by
  induction evs generalizing s with
  | nil => cases h; rfl
  | cons x xs ih =>
    have hne' : Read.empty ∉ xs := fun hm => hne (List.mem_cons_of_mem _ hm)
    cases x with
    | oserror => exact ih s hne' h
    | empty => exact absurd List.mem_cons_self hne
    | char ch =>
      simp only [chars, scanAll] at h
      simp only [List.cons_append, gcpLoop]
      cases hs : scanStep dv s ch with
      | inl s1 =>
        rw [hs] at h
        exact ih s1 hne' h
      | inr x =>
        rw [hs] at h
        cases h

end C18
open C18

/-- `evs0` carries the characters `pre ++ csi ++ d1 ++ ";" ++ d2` interleaved with any number of failing
    reads (`Read.oserror`); then `R` arrives; `post` is whatever follows (characters, errors, anything). -/
theorem C18_parse (dv : Char → Option Nat) (hdv : SaneDigits dv) (cb : Bool)
    (pre csi d1 d2 : List Char) (evs0 post : List Read)
    (hcsi : IsCsi csi) (h1 : Digits dv d1) (h2 : Digits dv d2)
    (hpre : ∀ a b c, pre = a ++ b ++ c → ¬ ReportShaped dv b)
    (hevs : chars evs0 = pre ++ csi ++ d1 ++ [';'] ++ d2) (hne : Read.empty ∉ evs0) :
    getCursorPosition dv cb (evs0 ++ [Read.char 'R'] ++ post) = some
      { result := if pre = [] ∨ cb = true then .ok ((value dv d1 : Int) - 1, (value dv d2 : Int) - 1)
                  else .error .valueError,
        callback := if pre ≠ [] ∧ cb = true then some pre else none,
        rest := post } := by
  -- the scanner state after `pre ++ csi ++ d1 ++ ; ++ d2`
  have hscan : scanAll dv {} (chars evs0) = some ⟨pre, csi ++ d1 ++ [';'] ++ d2, .col (value dv d1) (some (value dv d2))⟩ := by
    obtain ⟨s1, hs1, hresp⟩ := scanAll_no_report_init dv pre hpre
    rw [hevs]
    simp only [List.append_assoc]
    rw [scanAll_append, hs1, Option.bind_some,
      scanAll_append, scanAll_csi dv s1 csi hcsi, Option.bind_some, hresp,
      scanAll_append, scanAll_digits dv hdv Scan.row (Or.inl rfl) h1, Option.bind_some,
      scanAll_append, scanAll_semi dv hdv, Option.bind_some,
      scanAll_digits dv hdv (Scan.col _) (Or.inr ⟨_, rfl⟩) h2]
    simp [value]
  unfold getCursorPosition
  rw [List.append_assoc, gcpLoop_scanAll dv cb evs0 _ _ _ hne hscan]
  have a1 : 'R' ≠ ESC := by decide
  have a2 : 'R' ≠ CSI8 := by decide
  simp only [List.cons_append, List.nil_append, gcpLoop, scanStep, if_neg a1, if_neg a2, hdv.r]
  cases pre with
  | nil => simp
  | cons p ps => cases cb <;> simp

/-- The model does not stop before a character completes a report-shaped substring (that it stops there is
    `C18_parse`): as long as no substring of what was read is report-shaped, the loop is still reading and `resp`
    is intact. -/
theorem C18_first_match (dv : Char → Option Nat) (cb : Bool) (evs tail : List Read)
    (hne : Read.empty ∉ evs) (hno : ∀ a b c, chars evs = a ++ b ++ c → ¬ ReportShaped dv b) :
    ∃ s, s.extra ++ s.cand = chars evs ∧
      getCursorPosition dv cb (evs ++ tail) = gcpLoop dv cb s tail := by
  obtain ⟨s1, hs1, hresp⟩ := scanAll_no_report_init dv (chars evs) hno
  exact ⟨s1, hresp, gcpLoop_scanAll dv cb evs tail _ _ hne hs1⟩

/-- a read returning '' before the report is complete raises ValueError and consumes that read -/
theorem C18_empty_read (dv : Char → Option Nat) (cb : Bool) (evs tail : List Read)
    (hne : Read.empty ∉ evs) (hno : ∀ a b c, chars evs = a ++ b ++ c → ¬ ReportShaped dv b) :
    getCursorPosition dv cb (evs ++ Read.empty :: tail) = some ⟨.error .valueError, none, tail⟩ := by
  obtain ⟨s, _, h⟩ := C18_first_match dv cb evs (Read.empty :: tail) hne hno
  rw [h]; rfl

/-- observable part of an outcome: returned pair (none = exception), callback argument, unread input -/
def C18.obs (o : Option GcpOut) : Option (Option (Int × Int) × Option (List Char) × List Read) :=
  o.map fun o => (match o.result with | .ok p => some p | .error _ => none, o.callback, o.rest)

/-- why look-alikes are excluded: a complete report inside the preceding input is taken for the answer -/
theorem C18_lookalike_witness :
    C18.obs (getCursorPosition Spec.digitVal true ("\x1b[5;5Ra\x1b[1;1R".toList.map Read.char)) =
      some (some (4, 4), none, "a\x1b[1;1R".toList.map Read.char) := by decide +kernel

/-- non-vacuity of C18_parse: keys, a stray ESC and half a report ahead of an 8-bit report, one failing read -/
example : C18.obs (getCursorPosition Spec.digitVal true
      ([.char 'a', .char '\x1b', .oserror, .char '\x1b', .char '[', .char '1', .char '\u009b', .char '2', .char '4',
        .char ';', .char '8', .char '0', .char 'R', .char 'x'])) =
    some (some (23, 79), some ['a', '\x1b', '\x1b', '[', '1'], [.char 'x']) := by decide +kernel

theorem C18.valueFrom_digits (ds : List Char) (acc : Nat) (h : ∀ d ∈ ds, d.isDigit = true) :
    valueFrom Spec.digitVal acc ds = Nat.ofDigitChars 10 ds acc := by
  induction ds generalizing acc with
  | nil => simp [valueFrom]
  | cons d ds ih =>
    have hd : Spec.digitVal d = some (d.toNat - '0'.toNat) :=
      digitVal_of_isDigit ((isDigit_eq d).trans (h d List.mem_cons_self))
    simp only [valueFrom, List.foldl_cons, Nat.ofDigitChars_cons, hd, Option.getD_some]
    have := ih (acc * 10 + (d.toNat - '0'.toNat)) (fun x hx => h x (List.mem_cons_of_mem _ hx))
    simp only [valueFrom] at this
    rw [this, Nat.mul_comm]

theorem C18.decimal_eq_dec (n : Nat) : Spec.Terminal.decimal n = dec n := rfl

/-- decimal round trip: the digits a terminal sends for `n` are ASCII digits and read back as `n` -/
theorem C18_decimal (n : Nat) :
    Digits Spec.digitVal (Spec.Terminal.decimal n) ∧ value Spec.digitVal (Spec.Terminal.decimal n) = n := by
  -- the terminal spec's `decimal` is the `dec` of Proofs/Sgr, whose digits are `Curtsies.isDigit`'s: `Char.isDigit`'s
  rw [C18.decimal_eq_dec]
  have hd : DigStr (dec n) := dec_digStr n
  have hdig : ∀ d ∈ dec n, d.isDigit = true := fun d hd' => (isDigit_eq d).symm.trans (hd.2 d hd')
  refine ⟨⟨hd.1, fun d hd' => ?_⟩, ?_⟩
  · rw [digitVal_of_isDigit (hd.2 d hd')]; rfl
  · rw [value, C18.valueFrom_digits (dec n) 0 hdig, ← intVal_eq, intVal_dec]

/-- each pass of either loop moves one row between `dy` and `top`: their sum stays, however many passes there are -/
private theorem downLoop_sum (n : Nat) (top dy : Int) : (downLoop n top dy).1 + (downLoop n top dy).2 = top + dy := by
  induction n generalizing top dy with
  | zero => rfl
  | succ n ih =>
    rw [downLoop]
    split
    · rw [ih]; omega
    · rfl

private theorem upLoop_sum (n : Nat) (top dy : Int) : (upLoop n top dy).1 + (upLoop n top dy).2 = top + dy := by
  induction n generalizing top dy with
  | zero => rfl
  | succ n ih =>
    rw [upLoop]
    split
    · rw [ih]; omega
    · rfl

theorem C18_conserve (win : CAWin) (row : Int) :
    (diffOnce win row).1.lastCursorRow = some row ∧
    match win.lastCursorRow with
    | some last => ((diffOnce win row).1.top - win.top) + (diffOnce win row).2 = row - last
    | none => (diffOnce win row).1.top = win.top ∧ (diffOnce win row).2 = 0 := by
  unfold diffOnce
  cases h : win.lastCursorRow with
  | none => simp
  | some last =>
    dsimp only
    -- `d`, `e`: origin and remaining movement after the first and after the second loop
    have hd := downLoop_sum (row - last).toNat win.top (row - last)
    generalize downLoop (row - last).toNat win.top (row - last) = d at hd ⊢
    have he := upLoop_sum (-d.2).toNat d.1 d.2
    generalize upLoop (-d.2).toNat d.1 d.2 = e at he ⊢
    exact ⟨rfl, by omega⟩

private theorem downLoop_exact (n : Nat) (top dy : Int) (hn : n = dy.toNat) :
    downLoop n top dy = if top > -1 ∧ dy > 0 then (top + dy, 0) else (top, dy) := by
  induction n generalizing top dy with
  | zero => rw [downLoop, if_neg (by omega)]
  | succ n ih =>
    rw [downLoop]
    by_cases h : top > -1 ∧ dy > 0
    · rw [if_pos h, if_pos h, ih _ _ (by omega)]
      split
      · congr 1; omega
      · -- this was the last pass: the movement is used up
        rw [show dy = 1 by omega]
        rfl
    · rw [if_neg h, if_neg h]

private theorem upLoop_exact (n : Nat) (top dy : Int) (hn : n = (-dy).toNat) :
    upLoop n top dy = if top > 1 ∧ dy < 0 then (max 1 (top + dy), dy + (top - max 1 (top + dy))) else (top, dy) := by
  induction n generalizing top dy with
  | zero => rw [upLoop, if_neg (by omega)]
  | succ n ih =>
    rw [upLoop]
    by_cases h : top > 1 ∧ dy < 0
    · rw [if_pos h, if_pos h, ih _ _ (by omega)]
      split
      · -- the remaining passes clamp at the same row
        rw [show top - 1 + (dy + 1) = top + dy by omega]
        generalize max 1 (top + dy) = m
        congr 1; omega
      · -- this was the last pass: row 1 is reached or the movement is used up
        rw [show max 1 (top + dy) = top - 1 by omega]
        congr 1; omega
    · rw [if_neg h, if_neg h]

/-- `_get_cursor_vertical_diff_once` when a cursor row is known, the two clamped loops in closed form: content that
    moved down takes the origin with it; content that moved up moves the origin up but not above row 1, and the rest
    is returned -/
theorem diffOnce_some (win : CAWin) (row last : Int) (hl : win.lastCursorRow = some last) :
    diffOnce win row =
      if win.top > -1 ∧ row - last > 0 then
        ({ win with top := win.top + (row - last), lastCursorRow := some row }, 0)
      else if win.top > 1 ∧ row - last < 0 then
        ({ win with top := max 1 (win.top + (row - last)), lastCursorRow := some row },
          row - last + (win.top - max 1 (win.top + (row - last))))
      else ({ win with lastCursorRow := some row }, row - last) := by
  unfold diffOnce
  rw [hl]
  simp only []
  rw [downLoop_exact _ _ _ rfl]
  by_cases h : win.top > -1 ∧ row - last > 0
  · rw [if_pos h, if_pos h]
    simp only []
    rw [upLoop_exact _ _ _ rfl, if_neg (fun h' => absurd h'.2 (Int.lt_irrefl 0))]
  · rw [if_neg h, if_neg h]
    simp only []
    rw [upLoop_exact _ _ _ rfl]
    by_cases h2 : win.top > 1 ∧ row - last < 0
    · rw [if_pos h2, if_pos h2]
    · rw [if_neg h2, if_neg h2]

theorem C18_once_exact (win : CAWin) (row last : Int) (hl : win.lastCursorRow = some last) (ht : 0 ≤ win.top) :
    (diffOnce win row).1.top = (if row ≥ last then win.top + (row - last)
                                else if win.top > 1 then max 1 (win.top + (row - last)) else win.top) ∧
    (diffOnce win row).2 = (if row ≥ last then 0
                            else if win.top > 1 then (row - last) + (win.top - max 1 (win.top + (row - last))) else row - last) ∧
    0 ≤ (diffOnce win row).1.top := by
  rw [diffOnce_some win row last hl]
  by_cases h1 : row > last
  · -- moved down
    have hd : row - last > 0 := Int.sub_pos.mpr h1
    rw [if_pos ⟨Int.lt_of_lt_of_le (by decide) ht, hd⟩, if_pos (Int.le_of_lt h1), if_pos (Int.le_of_lt h1)]
    exact ⟨rfl, rfl, Int.add_nonneg ht (Int.le_of_lt hd)⟩
  · rw [if_neg (fun h => h1 (Int.sub_pos.mp h.2))]
    by_cases h2 : row = last
    · -- did not move
      subst h2
      rw [Int.sub_self, if_neg (fun h => Int.lt_irrefl 0 h.2), if_pos (Int.le_refl _), if_pos (Int.le_refl _)]
      exact ⟨(Int.add_zero _).symm, rfl, ht⟩
    · -- moved up
      have h3 : ¬ row ≥ last := fun h => h1 (Int.lt_iff_le_and_ne.mpr ⟨h, Ne.symm h2⟩)
      rw [if_neg h3, if_neg h3]
      by_cases h4 : win.top > 1
      · rw [if_pos ⟨h4, Int.sub_neg_of_lt (Int.lt_of_not_ge h3)⟩, if_pos h4, if_pos h4]
        exact ⟨rfl, rfl, Int.le_trans (by decide) (Int.le_max_left 1 _)⟩
      · rw [if_neg (fun h => h4 h.1), if_neg h4, if_neg h4]
        exact ⟨rfl, rfl, ht⟩

/-- a call arriving while a query is in progress returns 0 at once, reads nothing and only raises the flag -/
theorem C18_nested_zero (win : CAWin) (rounds : List Round) (h : win.inDiff = true) :
    cursorVerticalDiff win rounds = some ({ win with anotherSigwinch := true }, .ok 0, rounds) := by
  simp [cursorVerticalDiff, h, nestedCall]

private theorem nestedCalls_eq (n : Nat) (win : CAWin) :
    nestedCalls n win = { win with anotherSigwinch := win.anotherSigwinch || decide (n > 0) } := by
  induction n generalizing win with
  | zero => simp [nestedCalls]
  | succ n ih => simp [nestedCalls, ih, nestedCall]

private theorem diffOnce_flags (win : CAWin) (row : Int) :
    (diffOnce win row).1.inDiff = win.inDiff ∧ (diffOnce win row).1.anotherSigwinch = win.anotherSigwinch := by
  unfold diffOnce
  cases win.lastCursorRow <;> simp

/-- a query that reports row `r` while `n` nested calls arrive -/
private theorem diffOnce_round (win : CAWin) (n : Nat) (r : Int) :
    (diffOnce { win with inDiff := true, anotherSigwinch := decide (n > 0) } r).1.anotherSigwinch = decide (n > 0) ∧
    (diffOnce { win with inDiff := true, anotherSigwinch := decide (n > 0) } r).1.lastCursorRow = some r ∧
    (diffOnce { win with inDiff := true, anotherSigwinch := decide (n > 0) } r).1.top - win.top +
      (diffOnce { win with inDiff := true, anotherSigwinch := decide (n > 0) } r).2 = r - win.lastCursorRow.getD r := by
  have hc := C18_conserve { win with inDiff := true, anotherSigwinch := decide (n > 0) } r
  refine ⟨(diffOnce_flags _ r).2, hc.1, ?_⟩
  have hsum := hc.2
  cases hwl : win.lastCursorRow with
  | none =>
    simp only [hwl] at hsum
    simp only [Option.getD_none]
    omega
  | some last =>
    simp only [hwl] at hsum
    simp only [Option.getD_some]
    omega

private theorem diffLoop_cons_row (acc : Int) (win : CAWin) (rd : Round) (rest : List Round) (r : Int)
    (h : rd.outcome = .row r) :
    diffLoop acc win (rd :: rest) =
      let w1 : CAWin := { win with inDiff := true, anotherSigwinch := decide (rd.nested > 0) }
      if !(diffOnce w1 r).1.anotherSigwinch then
        some ({ (diffOnce w1 r).1 with inDiff := false }, .ok (acc + (diffOnce w1 r).2), rest)
      else diffLoop (acc + (diffOnce w1 r).2) { (diffOnce w1 r).1 with inDiff := false } rest := by
  rw [diffLoop]
  simp only [nestedCalls_eq, Bool.false_or, h]

private theorem diffLoop_cons_raises (acc : Int) (win : CAWin) (rd : Round) (rest : List Round) (e : PyErr)
    (h : rd.outcome = .raises e) :
    diffLoop acc win (rd :: rest) =
      some ({ win with inDiff := false, anotherSigwinch := decide (rd.nested > 0) }, .error e, rest) := by
  rw [diffLoop]
  simp only [nestedCalls_eq, Bool.false_or, h]

/-- what one pass over the script does, for both ways it can end -/
private theorem diffLoop_spec (acc : Int) (win : CAWin) (rounds : List Round) (win' : CAWin)
    (res : Except PyErr Int) (rest : List Round) (h : diffLoop acc win rounds = some (win', res, rest)) :
    ∃ used : List Round, ∃ final : Round, rounds = used ++ final :: rest ∧
      (∀ rd ∈ used, rd.nested > 0 ∧ ∃ r, rd.outcome = .row r) ∧ win'.inDiff = false ∧
      (∀ ret, res = .ok ret → final.nested = 0 ∧ (∃ r, final.outcome = .row r) ∧ win'.anotherSigwinch = false ∧
          win'.lastCursorRow = some final.rowD ∧
          (win'.top - win.top) + (ret - acc) =
            final.rowD - win.lastCursorRow.getD ((used ++ [final]).head (by simp)).rowD) ∧
      (∀ e, res = .error e → final.outcome = .raises e ∧
          (used = [] → win'.top = win.top ∧ win'.lastCursorRow = win.lastCursorRow)) := by
  induction rounds generalizing acc win with
  | nil => simp [diffLoop] at h
  | cons rd rds ih =>
    cases ho : rd.outcome with
    | raises e =>
      rw [diffLoop_cons_raises acc win rd rds e ho] at h
      simp only [Option.some.injEq, Prod.mk.injEq] at h
      obtain ⟨e1, e2, e3⟩ := h
      subst e1 e2 e3
      refine ⟨[], rd, rfl, by simp, rfl, nofun, fun e' he => ?_⟩
      cases he
      exact ⟨ho, fun _ => ⟨rfl, rfl⟩⟩
    | row r =>
      rw [diffLoop_cons_row acc win rd rds r ho] at h
      simp only [] at h
      obtain ⟨ha, hl, hcons⟩ := diffOnce_round win rd.nested r
      generalize diffOnce { win with inDiff := true, anotherSigwinch := decide (rd.nested > 0) } r = d at h ha hl hcons
      have hrd : rd.rowD = r := by simp [Round.rowD, ho]
      by_cases hn : rd.nested > 0
      · -- disturbed: the loop goes on from the window this query left
        simp only [ha, hn, decide_true, Bool.not_true, Bool.false_eq_true, if_false] at h
        obtain ⟨used, final, hsplit, hused, hin, hok, herr⟩ := ih _ _ h
        refine ⟨rd :: used, final, by rw [hsplit]; rfl, List.forall_mem_cons.mpr ⟨⟨hn, r, ho⟩, hused⟩, hin, ?_,
          fun e he => ⟨(herr e he).1, nofun⟩⟩
        intro ret hret
        obtain ⟨f1, f2, f3, f4, f5⟩ := hok ret hret
        refine ⟨f1, f2, f3, f4, ?_⟩
        simp only [hl, Option.getD_some] at f5
        simp only [List.cons_append, List.head_cons, hrd]
        omega
      · -- undisturbed: this query is the last
        simp only [ha, hn, decide_false, Bool.not_false, if_true, Option.some.injEq, Prod.mk.injEq] at h
        obtain ⟨e1, e2, e3⟩ := h
        subst e1 e2 e3
        refine ⟨[], rd, rfl, by simp, rfl, fun ret hret => ?_, nofun⟩
        cases hret
        refine ⟨by omega, ⟨r, ho⟩, rfl, hrd ▸ hl, ?_⟩
        simp only [List.nil_append, List.head_cons, hrd]
        omega

/-- `get_cursor_vertical_diff` (not itself nested) returning normally, over any script of queries, each disturbed by
    any number of nested calls: it consumes the queries up to and including the first undisturbed one
    (`used ++ [final]`, all of which reported a row), ends with both flags clear and `_last_cursor_row` = the last
    reported row, and (change of top_usable_row) + returned = last reported row - previously known row
    (the first reported row when none was known: nothing to account for before it). -/
theorem C18_nested (win : CAWin) (rounds : List Round) (win' : CAWin) (ret : Int) (rest : List Round)
    (hin : win.inDiff = false) (h : cursorVerticalDiff win rounds = some (win', .ok ret, rest)) :
    ∃ used : List Round, ∃ final : Round, rounds = used ++ final :: rest ∧
      (∀ rd ∈ used, rd.nested > 0 ∧ ∃ r, rd.outcome = .row r) ∧
      final.nested = 0 ∧ (∃ r, final.outcome = .row r) ∧
      win'.inDiff = false ∧ win'.anotherSigwinch = false ∧ win'.lastCursorRow = some final.rowD ∧
      (win'.top - win.top) + ret =
        final.rowD - win.lastCursorRow.getD ((used ++ [final]).head (by simp)).rowD := by
  simp only [cursorVerticalDiff, hin] at h
  obtain ⟨used, final, h1, h2, h3, hok, _⟩ := diffLoop_spec 0 win rounds win' (.ok ret) rest (by simpa using h)
  obtain ⟨h4, h5, h6, h7, h8⟩ := hok ret rfl
  exact ⟨used, final, h1, h2, h4, h5, h3, h6, h7, by simpa using h8⟩

/-- The failure path (the `try/finally` of window.py:399-402): when a query raises — input ahead of the report with no
    callback, or a read returning '' — the exception propagates, but `in_get_cursor_diff` is clear again; the failing round
    changed nothing else, and when it was the first round the window is exactly as before (apart from the
    `another_sigwinch` flag, which the next call resets). -/
theorem C18_error_recovers (win : CAWin) (rounds : List Round) (win' : CAWin) (e : PyErr) (rest : List Round)
    (hin : win.inDiff = false) (h : cursorVerticalDiff win rounds = some (win', .error e, rest)) :
    win'.inDiff = false ∧
    ∃ used : List Round, ∃ final : Round, rounds = used ++ final :: rest ∧
      (∀ rd ∈ used, rd.nested > 0 ∧ ∃ r, rd.outcome = .row r) ∧ final.outcome = .raises e ∧
      (used = [] → win'.top = win.top ∧ win'.lastCursorRow = win.lastCursorRow) := by
  simp only [cursorVerticalDiff, hin] at h
  obtain ⟨used, final, h1, h2, h3, _, herr⟩ := diffLoop_spec 0 win rounds win' (.error e) rest (by simpa using h)
  exact ⟨h3, used, final, h1, h2, (herr e rfl).1, (herr e rfl).2⟩

/-- ... so the next call is an ordinary one: it is not mistaken for a nested call (it does query the terminal) and it
    accounts for the movement since the last row the window knew.  (With the flag still set it would return 0 without
    querying: `C18_nested_zero`.) -/
theorem C18_error_then_ok (win : CAWin) (rounds : List Round) (win' : CAWin) (e : PyErr) (rest : List Round)
    (hin : win.inDiff = false) (h : cursorVerticalDiff win rounds = some (win', .error e, rest))
    (rounds2 : List Round) (win'' : CAWin) (ret : Int) (rest2 : List Round)
    (h2 : cursorVerticalDiff win' rounds2 = some (win'', .ok ret, rest2)) :
    ∃ used : List Round, ∃ final : Round, rounds2 = used ++ final :: rest2 ∧ final.nested = 0 ∧
      win''.inDiff = false ∧ win''.lastCursorRow = some final.rowD ∧
      (win''.top - win'.top) + ret =
        final.rowD - win'.lastCursorRow.getD ((used ++ [final]).head (by simp)).rowD := by
  obtain ⟨used, final, a1, _, a3, _, a5, _, a7, a8⟩ :=
    C18_nested win' rounds2 win'' ret rest2 (C18_error_recovers win rounds win' e rest hin h).1 h2
  exact ⟨used, final, a1, a3, a5, a7, a8⟩

/-- it blocks (waits for another report) when every scripted query reported a row and was disturbed -/
theorem C18_nested_blocks (win : CAWin) (rounds : List Round) (hin : win.inDiff = false)
    (hall : ∀ rd ∈ rounds, rd.nested > 0 ∧ ∃ r, rd.outcome = .row r) : cursorVerticalDiff win rounds = none := by
  simp only [cursorVerticalDiff, hin]
  have : ∀ acc w, diffLoop acc w rounds = none := by
    induction rounds with
    | nil => intro acc w; rfl
    | cons rd rds ih =>
      intro acc w
      obtain ⟨hn, r, ho⟩ := hall rd List.mem_cons_self
      rw [diffLoop_cons_row acc w rd rds r ho]
      simp only []
      rw [(diffOnce_round w rd.nested r).1, decide_eq_true hn]
      simp only [Bool.not_true, Bool.false_eq_true, if_false]
      exact ih (fun x hx => hall x (List.mem_cons_of_mem _ hx)) _ _
  simpa using this 0 win

/-- non-vacuity: two disturbed queries, then an undisturbed one; the cursor went from row 5 to row 9 -/
example : (cursorVerticalDiff { top := 3, lastCursorRow := some 5 }
      [⟨.row 7, 2⟩, ⟨.row 4, 1⟩, ⟨.row 9, 0⟩, ⟨.row 1, 0⟩]).map
    (fun (w, r, rest) => (w.top, (match r with | .ok x => some x | .error _ => none), rest.length)) = some (7, some 0, 1) := by
  decide

/-- non-vacuity of the failure path: a disturbed query, then a failing one; the flag is clear afterwards -/
example : (cursorVerticalDiff { top := 3, lastCursorRow := some 5 }
      [⟨.row 7, 1⟩, ⟨.raises .valueError, 0⟩, ⟨.row 9, 0⟩]).map
    (fun (w, r, rest) => (w.top, w.inDiff, (match r with | .ok _ => true | .error _ => false), rest.length)) =
    some (5, false, false, 1) := by
  decide

end Curtsies
