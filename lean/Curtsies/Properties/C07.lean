/-
  C07 - CursorAwareWindow keeps history intact and accounts for every scroll.

  `C07.full t` = scrollback ++ screen rows: everything the user can scroll through, top to bottom.
  `C07.Rel win t`: the window's origin `top_usable_row` is a screen row, the main screen is active, cached lines are
  ESC-free, and (when the size is the one last rendered at and the cache is non-empty) every row from the origin down
  shows what the cache says.

  FINDING D41 (open): the property's quantifier puts no bound on the row lengths and the docstring says a too wide array
  is rendered anyway - but a row longer than the terminal wraps and, on the bottom row, scrolls the screen by lines
  the window does not count.  `C07_render_full_statement` / `C07_history_full_statement` (no bound) are REFUTED
  (`C07_D41_witness`, `C07_D41_refutes`, `C07_D41_history_refutes`).  The theorems carry the complement of the finding's
  footprint, `len l ≤ t.w` for every row, hence the names `_partial`.

  Hypotheses: rows `Glyphs` (no control character; one column each - the domain of the terminal spec's `put`) and at
  most as wide as the terminal (`len l ≤ t.w`: D41 above); the terminal is in its default graphic state when a render
  starts (`t.g = {}`, proved again at its end); cursor_pos designates a row of the array (a column beyond the last one
  is clamped by the terminal: `cursorCol`).  The terminal has at most 1000001 rows (`t.location(x=0, y=1000000)` must
  reach the bottom row).
-/
import Curtsies.Proofs.Window
import Curtsies.Properties.C18
namespace Curtsies
open Window Spec Spec.Terminal

namespace C07

/-- a row as the terminal shows it: `w` cells, blanks after the content -/
def padRow (w : Nat) (cs : List TCell) : List TCell := (List.range w).map fun c => cs[c]?.getD blank

def full (t : Term) : List (List TCell) := t.scrollback ++ t.screen

structure Rel (win : CAWin) (t : Term) : Prop where
  esc : CacheEsc win.cache
  top : 0 ≤ win.top ∧ win.top < t.h
  main : t.alt = none
  coh : win.lastH = some t.h → win.lastW = some t.w → Coherent win.cache t win.top.toNat

theorem Rel.start {win : CAWin} {t : Term} (h : Rel win t) :
    ∃ k : Nat, win.top = k ∧ win.top.toNat = k ∧ k < t.h ∧
      CacheEsc (if win.lastH = some t.h ∧ win.lastW = some t.w then win.cache else []) ∧
      Coherent (if win.lastH = some t.h ∧ win.lastW = some t.w then win.cache else []) t k :=
  ⟨win.top.toNat, (Int.toNat_of_nonneg h.top.1).symm, rfl, (Int.toNat_lt h.top.1).mpr h.top.2, cacheEsc_ite h.esc,
    coherent_ite fun hs => h.coh hs.1 hs.2⟩

/-- cell (i, c) of the array as a terminal shows it; blank outside the array -/
def cellOf (arr : List FmtStr) (i c : Nat) : TCell :=
  match arr[i]? with
  | some l => (effCells l)[c]?.getD blank
  | none => blank

def isLf : TermOp → Bool
  | .lf => true
  | _ => false

def lfCount (ops : List TermOp) : Nat := (ops.filter isLf).length

theorem lfCount_append (a b : List TermOp) : lfCount (a ++ b) = lfCount a + lfCount b := by
  simp [lfCount, List.filter_append]

theorem lfCount_content (old : RowCache) (w : Nat) (clip : FmtStr → FmtStr) :
    ∀ (lines : List FmtStr) (rows : List Int) (cur : RowCache), lfCount (contentLoop old w clip rows lines cur).2 = 0 := by
  intro lines
  induction lines with
  | nil => intro rows cur; rw [contentLoop_nil]; rfl
  | cons l ls ih =>
    intro rows cur
    cases rows with
    | nil => rfl
    | cons r rs =>
      rw [contentLoop_cons, lfCount_append, ih]
      by_cases h : lineEq (clip l) (old.get r) = true
      · rw [if_pos h]; rfl
      · rw [if_neg h]
        by_cases h2 : len (clip l) < w <;> simp [writeLine, h2, lfCount, isLf, TermOp.putStr]

theorem lfCount_blank (old : RowCache) :
    ∀ (rows : List Int) (cur : RowCache), lfCount (blankLoop old rows cur).2 = 0 := by
  intro rows
  induction rows with
  | nil => intro cur; rfl
  | cons r rs ih =>
    intro cur
    rw [blankLoop_cons, lfCount_append, ih]
    split <;> rfl

theorem scrollLoop_cons (h : Nat) (line : FmtStr) (lines : List FmtStr) (top : Nat) (off : Int) (cur : RowCache) :
    scrollLoop h (line :: lines) top off cur =
      let r := scrollLoop h lines ((top - 1 : Nat) : Int) (if top = 0 then off + 1 else off)
        (RowCache.set (cur.map fun (k, v) => (k - 1, v)) ((h : Int) - 1) (some line))
      (r.1, r.2.1, r.2.2.1, (scrollDown ++ [.cup ((h : Int) - 1).toNat 0, .putStr (render line)]) ++ r.2.2.2) := by
  rw [scrollLoop]
  cases top with
  | zero => rfl
  | succ n =>
    have : ((n + 1 : Nat) : Int) > 0 := by omega
    simp only [this, if_true, Nat.add_sub_cancel, Nat.add_one_ne_zero, if_false]
    rw [show ((n + 1 : Nat) : Int) - 1 = (n : Int) by omega]

theorem scrollLoop_counts (h : Nat) :
    ∀ (lines : List FmtStr) (top : Nat) (off : Int) (cur : RowCache),
      (scrollLoop h lines top off cur).1 = ((top - lines.length : Nat) : Int) ∧
      (scrollLoop h lines top off cur).2.1 = off + ((lines.length - top : Nat) : Int) ∧
      lfCount (scrollLoop h lines top off cur).2.2.2 = lines.length := by
  intro lines
  induction lines with
  | nil => intro top off cur; simp [scrollLoop, lfCount]
  | cons l ls ih =>
    intro top off cur
    have hoff : (if top = 0 then off + 1 else off) + ((ls.length - (top - 1) : Nat) : Int) =
        off + ((ls.length + 1 - top : Nat) : Int) := by
      cases top with
      | zero => rw [if_pos rfl, Nat.zero_sub, Nat.sub_zero, Nat.sub_zero]; omega
      | succ m => rw [if_neg (Nat.succ_ne_zero m), Nat.add_sub_cancel, Nat.add_sub_add_right]
    rw [scrollLoop_cons]
    obtain ⟨itop, ioff, ilf⟩ := ih (top - 1) (if top = 0 then off + 1 else off)
      (RowCache.set (cur.map fun (k, v) => (k - 1, v)) ((h : Int) - 1) (some l))
    refine ⟨itop.trans ?_, ioff.trans hoff, ?_⟩
    · rw [List.length_cons, Nat.sub_sub, Nat.add_comm]
    · show lfCount (_ ++ _) = _
      rw [lfCount_append, ilf, List.length_cons, Nat.add_comm]; rfl

def run : CAWin → Term → List (List FmtStr × (Nat × Nat)) → CAWin × Term
  | win, t, [] => (win, t)
  | win, t, (arr, pos) :: rest =>
    run (renderCursorAware win t.h t.w arr pos).1 (exec t (renderCursorAware win t.h t.w arr pos).2.1) rest

def ValidFits (u : UEnv) : CAWin → Term → List (List FmtStr × (Nat × Nat)) → Prop
  | _, _, [] => True
  | win, t, (arr, pos) :: rest =>
    (∀ l ∈ arr, Glyphs u l ∧ len l ≤ t.w) ∧ arr.length ≤ t.h - win.top.toNat ∧
    ((pos.1 < arr.length ∨ (arr = [] ∧ pos.1 = 0)) ∧ pos.2 < t.w) ∧
    ValidFits u (renderCursorAware win t.h t.w arr pos).1 (exec t (renderCursorAware win t.h t.w arr pos).2.1) rest

/-- the property's domain for a sequence of renders: rows of printable single-column characters (`Glyphs`) no wider
    than the terminal, cursor_pos on a row of the array -/
def ValidSeq (u : UEnv) : CAWin → Term → List (List FmtStr × (Nat × Nat)) → Prop
  | _, _, [] => True
  | win, t, (arr, pos) :: rest =>
    (∀ l ∈ arr, Glyphs u l ∧ len l ≤ t.w) ∧ (pos.1 < arr.length ∨ (arr = [] ∧ pos.1 = 0)) ∧
    ValidSeq u (renderCursorAware win t.h t.w arr pos).1 (exec t (renderCursorAware win t.h t.w arr pos).2.1) rest

/-- the domain of a sequence of renders as the property has it: no bound on the row lengths -/
def ValidSeqFull (u : UEnv) : CAWin → Term → List (List FmtStr × (Nat × Nat)) → Prop
  | _, _, [] => True
  | win, t, (arr, pos) :: rest =>
    (∀ l ∈ arr, Glyphs u l) ∧ (pos.1 < arr.length ∨ (arr = [] ∧ pos.1 = 0)) ∧
    ValidSeqFull u (renderCursorAware win t.h t.w arr pos).1 (exec t (renderCursorAware win t.h t.w arr pos).2.1) rest

end C07
open C07

/-- Only the cache compared against depends on whether the size changed; `n` lines are scrolled in, the origin moves up
    by `n` but not above row 0, and the rows of the array pushed off the top are returned. -/
theorem renderCursorAware_closed (win : CAWin) (h w : Nat) (arr : List FmtStr) (pos : Nat × Nat) (k : Nat)
    (hk : win.top = (k : Int)) :
    renderCursorAware win h w arr pos =
      let old := if win.lastH = some h ∧ win.lastW = some w then win.cache else []
      let s := min arr.length (h - k)
      let n := arr.length - (h - k)
      let c1 := contentLoop old w id (intRows k s) (arr.take s) []
      let c2 := blankLoop old (intRows (k + s) (h - k - s)) c1.1
      let c3 := scrollLoop h (arr.drop s) k 0 c2.1
      let row := k - n + pos.1 - (n - k)
      ({ win with cache := c3.2.2.1, lastH := some h, lastW := some w, top := ((k - n : Nat) : Int),
                  lastCursorRow := some (row : Int), lastCursorCol := some (pos.2 : Int) },
       (if !win.hideCursor then [TermOp.hide] else []) ++ (c1.2 ++ c2.2 ++ c3.2.2.2) ++
         ([.cup row pos.2] ++ (if !win.hideCursor then [TermOp.show] else [])), ((n - k : Nat) : Int)) := by
  -- the window the loops run on: its cache dropped if the size changed
  have hwin : (if win.lastH ≠ some h ∨ win.lastW ≠ some w
        then ({ win with cache := [], lastH := some h, lastW := some w } : CAWin) else win) =
      { win with cache := if win.lastH = some h ∧ win.lastW = some w then win.cache else [],
                 lastH := some h, lastW := some w } := by
    by_cases hs : win.lastH = some h ∧ win.lastW = some w
    · -- the size it last rendered at: the window stays as it is
      rw [if_neg fun h' => h'.elim (absurd hs.1) (absurd hs.2), if_pos hs, ← hs.1, ← hs.2]
    · rw [if_pos (Decidable.not_and_iff_not_or_not.mp hs), if_neg hs]
  -- the rows from the origin down; the first `s` of them get a line, `n` lines are left for the scroll loop
  have hrows : pyRange (k : Int) h = intRows k (h - k) := pyRange_eq k h
  have hn : (arr.drop (min arr.length (h - k))).length = arr.length - (h - k) := by
    rw [List.length_drop, ← Nat.sub_eq_sub_min]
  -- the origin and the count the scroll loop returns, whatever it scrolls in
  have htop (ls : List FmtStr) (c : RowCache) : (scrollLoop h ls k 0 c).1 = ((k - ls.length : Nat) : Int) :=
    (scrollLoop_counts h ls k 0 c).1
  have hoff (ls : List FmtStr) (c : RowCache) : (scrollLoop h ls k 0 c).2.1 = ((ls.length - k : Nat) : Int) :=
    (scrollLoop_counts h ls k 0 c).2.1.trans (Int.zero_add _)
  -- one of `n - k`, `k - n` is 0; the truncated subtraction is the `max 0`
  have hrow (n p : Nat) : max 0 ((p : Int) - ((n - k : Nat) : Int) + ((k - n : Nat) : Int)) =
      ((k - n + p - (n - k) : Nat) : Int) := by
    rw [Int.max_def]
    split <;> omega
  -- unfolded, the model is the right side once each of these is put in (the window first: `hk` rewrites inside
  -- `hwin`'s left side); what is left is the bracketing of the op list
  simp only [renderCursorAware, hwin]
  simp only [hk, hrows, intRows_length, intRows_take k (h - k) _ (Nat.min_le_right _ _), intRows_drop, htop, hoff, hn,
    hrow, Int.toNat_natCast, List.append_assoc]

/-- (c), (d), (e), (f) at the level of what the model returns and writes, for EVERY array and origin on the screen:
    `scrolls` line feeds are emitted (each on the bottom row: `scrollDown` moves there first), the origin moves up by
    `scrolls` but not above row 0, the `pushed` rows that no longer fit are returned, and the final cursor move goes to
    the row `_last_cursor_row` records (row 0 if that cell was pushed off). -/
theorem C07_accounting (win : CAWin) (h w : Nat) (arr : List FmtStr) (pos : Nat × Nat)
    (htop : 0 ≤ win.top ∧ win.top ≤ h) :
    let res := renderCursorAware win h w arr pos
    let avail := h - win.top.toNat
    let scrolls := arr.length - avail
    let pushed := scrolls - win.top.toNat
    res.2.2 = (pushed : Int) ∧
    res.1.top = ((win.top.toNat - scrolls : Nat) : Int) ∧
    res.1.lastCursorRow = some ((res.1.top.toNat + pos.1 - pushed : Nat) : Int) ∧
    lfCount res.2.1 = scrolls ∧
    ∃ before, res.2.1 = before ++ [.cup (res.1.top.toNat + pos.1 - pushed) pos.2] ++
      (if !win.hideCursor then [TermOp.show] else []) := by
  obtain ⟨k, hk⟩ : ∃ k : Nat, win.top = k := ⟨win.top.toNat, (Int.toNat_of_nonneg htop.1).symm⟩
  have hd := (Nat.sub_eq_sub_min arr.length (h - k)).symm
  rw [renderCursorAware_closed win h w arr pos k hk, hk]
  simp only [Int.toNat_natCast]
  refine ⟨trivial, trivial, trivial, ?_, _, (List.append_assoc _ _ _).symm⟩
  simp only [lfCount_append, lfCount_content, lfCount_blank, (scrollLoop_counts h _ k 0 _).2.2, List.length_drop, hd]
  cases win.hideCursor <;> simp [lfCount, isLf]

/-- The clauses of `RenderPost` for a render that fits below the origin, on `grid` cell by cell and not on `full`.  Not
    an instance of it: no bound on the terminal's height is needed (nothing scrolls), the scrollback is equal outright
    (there: through `full` and its length), and rows above the origin keep every column, also beyond the width. -/
theorem C07_render_fits (u : UEnv) (win : CAWin) (t : Term) (arr : List FmtStr) (pos : Nat × Nat)
    (hrel : Rel win t) (hbg : t.g = {}) (hrows0 : ∀ l ∈ arr, Glyphs u l ∧ len l ≤ t.w)
    (hfits : arr.length ≤ t.h - win.top.toNat)
    (hpos : (pos.1 < arr.length ∨ (arr = [] ∧ pos.1 = 0)) ∧ pos.2 < t.w) :
    let res := renderCursorAware win t.h t.w arr pos
    let t' := exec t res.2.1
    -- (a)(c) rows above the window's first row and the scrollback are untouched: nothing scrolled
    (∀ r c, r < win.top.toNat → t'.grid r c = t.grid r c) ∧ t'.scrollback = t.scrollback ∧
    -- (b) from the window's first row down: the array, then blanks
    (∀ i c, win.top.toNat + i < t.h → c < t.w → t'.grid (win.top.toNat + i) c = C07.cellOf arr i c) ∧
    -- (d)(e) 0 returned, origin unchanged
    res.2.2 = 0 ∧ res.1.top = win.top ∧
    -- (f) the cursor
    t'.r = win.top.toNat + pos.1 ∧ t'.c = pos.2 ∧ t'.pw = false ∧
    res.1.lastCursorRow = some ((win.top.toNat + pos.1 : Nat) : Int) ∧
    t'.cursorVisible = (if win.hideCursor then t.cursorVisible else true) ∧
    t'.h = t.h ∧ t'.w = t.w ∧ t'.g = {} ∧
    -- (g)
    Rel res.1 t' := by
  obtain ⟨k, hk, hk', hkh, hesc, hcoh⟩ := hrel.start
  rw [hk'] at hfits ⊢
  have hka : k + arr.length ≤ t.h := Nat.add_le_of_le_sub' (Nat.le_of_lt hkh) hfits
  have hposr : k + pos.1 < t.h := hpos.1.elim (fun h => Nat.lt_of_lt_of_le (Nat.add_lt_add_left h k) hka)
    fun h => h.2 ▸ hkh
  rw [renderCursorAware_closed win t.h t.w arr pos k hk]
  simp only [Nat.min_eq_left hfits, Nat.sub_eq_zero_of_le hfits, List.take_length, List.drop_length, scrollLoop,
    Nat.sub_zero, Nat.zero_sub, List.append_nil]
  have hrows : ∀ l ∈ arr, EscFree l ∧ len l ≤ t.w := fun l hl => ⟨(hrows0 l hl).1.1.escFree, (hrows0 l hl).2⟩
  have P := paint_framed _ id hesc arr k (s := arr.length) (m := arr.length) t (hs := rfl) (hm := Nat.le_refl _)
    (hk := hka) hbg hrows hcoh win.hideCursor
  dsimp only at P
  rw [exec_framed_on t _ win.hideCursor _ _ pos.2 rfl P.frame hposr hpos.2]
  generalize exec _ (_ ++ _) = t2 at P ⊢
  -- clause by clause, as the statement labels them; for (g), the four fields of `Rel`
  refine ⟨fun r c hr => P.above r hr c, P.frame.sb,             -- (a)(c)
    fun i c hi hc => ?_,                                         -- (b)
    rfl, hk.symm,                                                -- (d)(e)
    rfl, rfl, rfl, trivial, rfl, P.frame.h, P.frame.w, P.bg,     -- (f)
    P.esc, ⟨Int.natCast_nonneg k, ?_⟩, P.frame.alt.trans hrel.main, fun _ _ => P.rows.coherent⟩
  · refine (P.shows i hi c (P.frame.w.symm ▸ hc)).trans ?_
    unfold C07.cellOf
    cases arr[i]? <;> rfl
  · show (k : Int) < (t2.h : Int)
    rw [P.frame.h]; exact Int.ofNat_lt.mpr hkh

/-- Over any sequence of renders that fit below the window's origin: the relation is maintained, the origin never
    moves, nothing scrolls, and every cell above the origin keeps its content throughout. -/
theorem C07_history_fits (u : UEnv) (steps : List (List FmtStr × (Nat × Nat))) :
    ∀ (win : CAWin) (t : Term), Rel win t → t.g = {} → C07.ValidFits u win t steps →
      Rel (C07.run win t steps).1 (C07.run win t steps).2 ∧ (C07.run win t steps).2.g = {} ∧
      (C07.run win t steps).1.top = win.top ∧ (C07.run win t steps).2.scrollback = t.scrollback ∧
      (C07.run win t steps).2.h = t.h ∧
      ∀ r c, r < win.top.toNat → (C07.run win t steps).2.grid r c = t.grid r c := by
  induction steps with
  | nil => intro win t hr hb _; exact ⟨hr, hb, rfl, rfl, rfl, fun _ _ _ => rfl⟩
  | cons st rest ih =>
    intro win t hr hb hv
    obtain ⟨arr, pos⟩ := st
    obtain ⟨h1, h2, h3, h4⟩ := hv
    -- of `C07_render_fits`: (a) rows above and scrollback, (e) the origin, then the height, `g = {}` and (g)
    obtain ⟨ra, rsb, -, -, rtop, -, -, -, -, -, rh, -, rbg, rrel⟩ := C07_render_fits u win t arr pos hr hb h1 h2 h3
    obtain ⟨i1, i2, i3, i4, i5, i6⟩ := ih _ _ rrel rbg h4
    refine ⟨i1, i2, by rw [C07.run, i3, rtop], by rw [C07.run, i4, rsb], by rw [C07.run, i5, rh], ?_⟩
    intro r c hr'
    rw [C07.run, i6 r c (by rw [rtop]; exact hr'), ra r c hr']

/-- non-vacuity: a 3x3 screen with a line of prior output, the window entered on row 1 -/
example : Rel { top := 1 } { h := 3, w := 3, r := 1, grid := fun r _ => if r = 0 then ('$', {}) else blank } :=
  ⟨cacheEsc_nil, by decide, rfl, fun h => by simp at h⟩

/-- One `scroll_down` on the terminal spec (main screen, default background, at most 1000001 rows — the constant in
    `t.location(x=0, y=1000000)`): the top row goes to scrollback, every row moves up, the bottom row is blank, and
    cursor (if on the screen), pending wrap and graphic state are exactly as before.  (`saved`: the save/restore pair
    around the line feed, `t.location`, leaves the cursor it saved in the terminal's saved-cursor slot.) -/
theorem C07_scroll_step (t : Term) (hh : 0 < t.h) (hmax : t.h ≤ 1000001) (hmain : t.alt = none) (hbg : t.g = {}) :
    exec t scrollDown =
      { t with scrollback := t.scrollback ++ [t.row 0],
               grid := fun r c => if r + 1 < t.h then t.grid (r + 1) c else blank,
               r := min t.r (t.h - 1), c := min t.c (t.w - 1),
               saved := { r := t.r, c := t.c, pw := t.pw, g := t.g } } := by
  have hcup : min 1000000 (t.h - 1) = t.h - 1 := Nat.min_eq_right (Nat.sub_le_of_le_add hmax)
  have hlf : ¬ (t.h - 1 + 1 < t.h) := by rw [Nat.sub_add_cancel hh]; exact Nat.lt_irrefl _
  have herased : (' ', ({ bg := t.g.bg } : Eff)) = blank := by rw [hbg]; rfl
  simp [scrollDown, Term.step, Term.index, Term.scrollUp, Term.erased, Term.row, hcup, hlf, herased, hmain]

namespace C07

/-- `C07_scroll_iter` wherever the cursor was -/
theorem scrollIter (t : Term) (line : FmtStr) (hh : 0 < t.h) (hmax : t.h ≤ 1000001) (hmain : t.alt = none)
    (hbg : t.g = {}) (hesc : EscFree line) (hlen : len line ≤ t.w) :
    let t' := exec t (scrollDown ++ [.cup ((t.h : Int) - 1).toNat 0, .putStr (render line)])
    t'.scrollback = t.scrollback ++ [t.row 0] ∧
    (∀ r c, r < t.h → c < t.w → t'.grid r c = if r + 1 < t.h then t.grid (r + 1) c else (effCells line)[c]?.getD blank) ∧
    t'.h = t.h ∧ t'.w = t.w ∧ t'.alt = t.alt ∧ t'.cursorVisible = t.cursorVisible ∧ t'.g = {} := by
  intro t'
  have e : t' = exec (exec t scrollDown) [.cup (t.h - 1) 0, .put (effCells line) {}] := by
    show exec t _ = _
    rw [exec_append, putStr_render line hesc, show ((t.h : Int) - 1).toNat = t.h - 1 from Int.toNat_sub t.h 1]
  have ht1 := C07_scroll_step t hh hmax hmain hbg
  generalize exec t scrollDown = t1 at ht1 e
  obtain ⟨⟨f, others, bg⟩, gr, -, -⟩ := exec_cup_put t1 (t.h - 1) (effCells line)
    (by rw [ht1]; exact Nat.sub_one_lt (Nat.ne_of_gt hh)) (by rw [ht1, effCells_length]; exact hlen)
  rw [← e] at f others bg gr
  subst ht1
  refine ⟨f.sb, fun r c hr _ => ?_, f.h, f.w, f.alt, f.vis, bg⟩
  by_cases hr1 : r + 1 < t.h
  · have hne : r ≠ t.h - 1 := by omega
    rw [others r hne c, if_pos hr1]; exact if_pos hr1
  · obtain rfl : r = t.h - 1 := by omega
    rw [gr, if_neg hr1]
    exact congrArg _ (if_neg hr1)

theorem row_congr (t t' : Term) (r r' : Nat) (hw : t'.w = t.w) (h : ∀ c, c < t.w → t'.grid r' c = t.grid r c) :
    t'.row r' = t.row r := by
  unfold Term.row
  rw [hw]
  apply List.map_congr_left
  intro c hc
  exact h c (List.mem_range.mp hc)

theorem row_eq_pad (t : Term) (r : Nat) (cs : List TCell) (h : Shows t r cs) : t.row r = padRow t.w cs := by
  unfold Term.row padRow
  apply List.map_congr_left
  intro c hc
  exact h c (List.mem_range.mp hc)

theorem shows_of_row (t : Term) (r : Nat) (cs : List TCell) (h : t.row r = padRow t.w cs) : Shows t r cs := by
  intro c hc
  have := congrArg (fun l => l[c]?) h
  simp [Term.row, padRow, hc] at this
  exact this

theorem full_length (t : Term) : (full t).length = t.scrollback.length + t.h := by
  simp [full, Term.screen]

theorem map_range_getElem? {α β : Type} (f : Option α → β) (L : List α) :
    ∀ n, L.length ≤ n →
      (List.range n).map (fun i => f L[i]?) = L.map (fun a => f (some a)) ++ List.replicate (n - L.length) (f none) := by
  induction L with
  | nil => intro n _; simp [List.map_const']
  | cons a L ih =>
    intro n hn
    rw [List.length_cons] at hn ⊢
    obtain ⟨m, rfl⟩ : ∃ m, n = m + 1 := ⟨n - 1, by omega⟩
    rw [List.range_succ_eq_map, List.map_cons, List.map_map]
    have := ih m (Nat.le_of_succ_le_succ hn)
    simp only [Function.comp_def, List.getElem?_cons_zero, List.getElem?_cons_succ, List.map_cons, List.cons_append,
      Nat.add_sub_add_right]
    rw [this]

/-- the screen row by row: `k` rows as before (`habove`), then row `k + i` as `hshow` says -/
theorem full_fit (t t2 : Term) (k : Nat) (L : List FmtStr) (hk : k + L.length ≤ t.h)
    (h' : t2.h = t.h) (w' : t2.w = t.w) (hsb : t2.scrollback = t.scrollback)
    (habove : ∀ r, r < k → ∀ c, t2.grid r c = t.grid r c)
    (hshow : ∀ i, k + i < t.h → Shows t2 (k + i) (match L[i]? with | some l => effCells l | none => [])) :
    full t2 = (full t).take (t.scrollback.length + k) ++ L.map (fun l => padRow t.w (effCells l)) ++
      List.replicate (t.h - k - L.length) (padRow t.w []) := by
  have hkh : k ≤ t.h := Nat.le_trans (Nat.le_add_right k L.length) hk
  have hsplit : t.h = k + (t.h - k) := (Nat.add_sub_of_le hkh).symm
  have e1 : (List.range k).map t2.row = (List.range k).map t.row :=
    List.map_congr_left fun r hr => row_congr t t2 r r w' fun c _ => habove r (List.mem_range.mp hr) c
  have e2 : (List.range (t.h - k)).map (fun i => t2.row (k + i)) =
      (List.range (t.h - k)).map fun i => padRow t.w (match L[i]? with | some l => effCells l | none => []) :=
    List.map_congr_left fun i hi =>
      w' ▸ row_eq_pad t2 (k + i) _ (hshow i (Nat.add_lt_of_lt_sub' (List.mem_range.mp hi)))
  have e3 : (full t).take (t.scrollback.length + k) = t.scrollback ++ (List.range k).map t.row := by
    rw [full, List.take_length_add_append, Term.screen, ← List.map_take, List.take_range, Nat.min_eq_left hkh]
  rw [e3, full, hsb, Term.screen, h', hsplit, List.range_add, List.map_append, List.map_map, e1]
  simp only [Function.comp_def]
  rw [e2, map_range_getElem? (fun o => padRow t.w (match o with | some l => effCells l | none => [])) L _
    (Nat.le_sub_of_add_le' hk)]
  simp only [List.append_assoc, Nat.add_sub_cancel_left]

/-- the screen loses its first row, which is the row the scrollback gains, and gets the new row at the bottom -/
theorem full_iter (t t' : Term) (cs : List TCell) (hh : 0 < t.h) (h' : t'.h = t.h) (w' : t'.w = t.w)
    (hsb : t'.scrollback = t.scrollback ++ [t.row 0])
    (hg : ∀ r c, r < t.h → c < t.w → t'.grid r c = if r + 1 < t.h then t.grid (r + 1) c else cs[c]?.getD blank) :
    full t' = full t ++ [padRow t.w cs] := by
  obtain ⟨n, hn⟩ : ∃ n, t.h = n + 1 := ⟨t.h - 1, (Nat.sub_add_cancel hh).symm⟩
  rw [hn] at hg
  have hrows : (List.range n).map t'.row = (List.range n).map fun r => t.row (r + 1) :=
    List.map_congr_left fun r hr => row_congr t t' (r + 1) r w' fun c hc => by
      have hr' : r + 1 < n + 1 := Nat.succ_lt_succ (List.mem_range.mp hr)
      rw [hg r c (Nat.lt_of_succ_lt hr') hc, if_pos hr']
  have hlast : t'.row n = padRow t.w cs :=
    w' ▸ row_eq_pad t' n cs fun c hc => by
      rw [hg n c (Nat.lt_succ_self n) (w' ▸ hc), if_neg (Nat.lt_irrefl (n + 1))]
  have hscreen : (List.range (n + 1)).map t.row = t.row 0 :: (List.range n).map fun r => t.row (r + 1) := by
    rw [List.range_succ_eq_map, List.map_cons, List.map_map]; rfl
  rw [full, full, hsb, Term.screen, Term.screen, h', hn, hscreen, List.range_succ, List.map_append, hrows,
    List.map_singleton, hlast]
  simp

/-- the cache after `{k - 1: v for k, v in current.items()}` -/
theorem get_shift (cur : RowCache) (row : Int) :
    RowCache.get (cur.map fun (k, v) => (k - 1, v)) row = cur.get (row + 1) := by
  unfold RowCache.get
  induction cur with
  | nil => rfl
  | cons p ps ih =>
    obtain ⟨k, v⟩ := p
    simp only [List.map_cons, List.lookup_cons]
    by_cases h : row = k - 1
    · simp [h]
    · have h2 : ¬ (row + 1 = k) := by omega
      have e1 : (row == k - 1) = false := by simp [h]
      have e2 : (row + 1 == k) = false := by simp [h2]
      rw [e1, e2]; exact ih

/-- every line is appended to `full`, and the cache, re-keyed at every scroll, describes the rows from the new origin down -/
theorem scrollLoop_spec (h : Nat) :
    ∀ (lines : List FmtStr) (top : Nat) (off : Int) (cur : RowCache) (t : Term),
      t.h = h → 0 < h → h ≤ 1000001 → t.alt = none → t.g = {} →
      (∀ l ∈ lines, EscFree l ∧ len l ≤ t.w) → CacheEsc cur → RowsShow t cur top →
      let res := scrollLoop h lines top off cur
      let t' := exec t res.2.2.2
      full t' = full t ++ lines.map (fun l => padRow t.w (effCells l)) ∧
      t'.h = t.h ∧ t'.w = t.w ∧ t'.alt = t.alt ∧ t'.cursorVisible = t.cursorVisible ∧ t'.g = {} ∧
      t'.scrollback.length = t.scrollback.length + lines.length ∧
      CacheEsc res.2.2.1 ∧ RowsShow t' res.2.2.1 (top - lines.length) := by
  intro lines
  induction lines with
  | nil =>
    intro top off cur t _ _ _ _ hbg _ hesc hrs
    exact ⟨by simp [scrollLoop], rfl, rfl, rfl, rfl, hbg, rfl, hesc, hrs⟩
  | cons line rest ih =>
    intro top off cur t hth hh hmax hmain hbg hl hesc hrs
    subst hth
    rw [scrollLoop_cons]
    simp only []
    rw [exec_append]
    have hline := hl line List.mem_cons_self
    obtain ⟨hsb1, hgrid1, hh1, hw1, halt1, hvis1, hbg1⟩ := scrollIter t line hh hmax hmain hbg hline.1 hline.2
    have hfull1 := full_iter t _ (effCells line) hh hh1 hw1 hsb1 hgrid1
    generalize exec t (scrollDown ++ [.cup ((t.h : Int) - 1).toNat 0, .putStr (render line)]) = t1
      at hsb1 hgrid1 hh1 hw1 halt1 hvis1 hbg1 hfull1
    generalize hcur1 : RowCache.set (cur.map fun (k, v) => (k - 1, v)) ((t.h : Int) - 1) (some line) = cur1
    have hget1 : ∀ row : Int, cur1.get row = if row + 1 = (t.h : Int) then some (some line) else cur.get (row + 1) := by
      intro row; rw [← hcur1, get_set, get_shift]
      simp only [show row = (t.h : Int) - 1 ↔ row + 1 = (t.h : Int) by omega]
    have hesc1 : CacheEsc cur1 := by
      intro row l hg
      rw [hget1] at hg
      by_cases hr : row + 1 = (t.h : Int)
      · rw [if_pos hr] at hg; cases hg; exact hline.1
      · rw [if_neg hr] at hg; exact hesc _ _ hg
    -- every row moved up one, and so did its cache entry; the bottom row shows the new line
    have hrs1 : RowsShow t1 cur1 (top - 1) := by
      intro row hle hlt c hc
      rw [hh1] at hlt
      rw [hw1] at hc
      unfold cacheCells
      rw [hget1, hgrid1 row c hlt hc, ← Int.natCast_add_one]
      by_cases hr : row + 1 < t.h
      · rw [if_pos hr, if_neg fun e => Nat.ne_of_lt hr (Int.ofNat_inj.mp e)]
        exact hrs (row + 1) (Nat.sub_le_iff_le_add.mp hle) hr c hc
      · rw [if_neg hr, if_pos (Int.ofNat_inj.mpr (Nat.le_antisymm hlt (Nat.le_of_not_lt hr)))]
    obtain ⟨hfull', hh', hw', halt', hvis', hbg', hsb', hesc', hrows'⟩ :=
      ih (top - 1) (if top = 0 then off + 1 else off) cur1 t1 hh1 hh hmax (halt1.trans hmain) hbg1
        (fun l hl' => by rw [hw1]; exact hl l (List.mem_cons_of_mem _ hl')) hesc1 hrs1
    refine ⟨?_, hh'.trans hh1, hw'.trans hw1, halt'.trans halt1, hvis'.trans hvis1, hbg', ?_, hesc', ?_⟩
    · rw [hfull', hfull1, hw1]; simp
    · rw [hsb', hsb1, List.length_append, List.length_singleton, List.length_cons, Nat.add_assoc, Nat.add_comm 1]
    · rw [List.length_cons, Nat.add_comm, ← Nat.sub_sub]; exact hrows'

/-- The final cursor move stays on the screen: `a` rows from the origin `k` down, `n` lines scrolled in, cursor on row
    `p` of the array.  The row is `renderCursorAware_closed`'s `row`, the model's `max 0 (p - off + top)`: the new
    origin `k - n` plus `p`, less the `n - k` rows of the array pushed off the top. -/
theorem cursorRow_lt {n a h k p : Nat} (hk : k < h) (ha : k + a = h) (hp : p < n + a) : k - n + p - (n - k) < h := by
  omega

/-- `a` rows are available: the first `min l.length a` lines are painted and padded with blanks, the rest scrolled in -/
theorem paint_then_scroll {α β : Type} (f : α → β) (b : β) (l : List α) (a : Nat) :
    (l.take (min l.length a)).map f ++ (List.replicate (a - min l.length a) b ++ (l.drop (min l.length a)).map f) =
      l.map f ++ List.replicate (a - l.length) b := by
  by_cases h : l.length ≤ a
  · rw [Nat.min_eq_left h, List.take_length, List.drop_length]; simp
  · have h' : a ≤ l.length := by omega
    rw [Nat.min_eq_right h', Nat.sub_self, Nat.sub_eq_zero_of_le h']
    simp

/-- clauses (a)-(g) of the property for one render with result `res = (window after, operations written, returned)` -/
structure RenderPost (win : CAWin) (t : Term) (arr : List FmtStr) (pos : Nat × Nat)
    (res : CAWin × List TermOp × Int) : Prop where
  /-- (a)+(b): everything above the window's first row is still there, unaltered (in the scrollback or on screen);
      from there on the terminal shows exactly the array, then blank rows -/
  shown : full (exec t res.2.1) = (full t).take (t.scrollback.length + win.top.toNat) ++
      arr.map (fun l => padRow t.w (effCells l)) ++ List.replicate (t.h - win.top.toNat - arr.length) (padRow t.w [])
  /-- (c) it scrolled exactly as many lines as the array does not fit -/
  scrolled : (exec t res.2.1).scrollback.length = t.scrollback.length + (arr.length - (t.h - win.top.toNat))
  /-- (d) returned = array rows pushed off the top of the screen -/
  returned : res.2.2 = ((arr.length - (t.h - win.top.toNat) - win.top.toNat : Nat) : Int)
  /-- (e) the new origin -/
  origin : res.1.top = ((win.top.toNat - (arr.length - (t.h - win.top.toNat)) : Nat) : Int)
  /-- (f) the cursor is on the cell cursor_pos designates (row 0 if that row was pushed off) -/
  cursorRow : (exec t res.2.1).r = res.1.top.toNat + pos.1 - (arr.length - (t.h - win.top.toNat) - win.top.toNat)
  /-- the column is cursor_pos's column (a column beyond the last one is clamped to it by the terminal) -/
  cursorCol : (exec t res.2.1).c = min pos.2 (t.w - 1)
  noPendingWrap : (exec t res.2.1).pw = false
  lastRow : res.1.lastCursorRow = some ((exec t res.2.1).r : Int)
  visible : (exec t res.2.1).cursorVisible = (if win.hideCursor then t.cursorVisible else true)
  height : (exec t res.2.1).h = t.h
  width : (exec t res.2.1).w = t.w
  bg : (exec t res.2.1).g = {}
  /-- (g) -/
  rel : Rel res.1 (exec t res.2.1)

/-- One render: what fits below the origin is painted (`paint_framed`), the rest scrolled in line by line
    (`scrollLoop_spec`), then the cursor placed (`exec_framed`). -/
theorem render_spec (win : CAWin) (t : Term) (arr : List FmtStr) (pos : Nat × Nat)
    (hrel : Rel win t) (hbg : t.g = {}) (hmax : t.h ≤ 1000001)
    (hrows : ∀ l ∈ arr, EscFree l ∧ len l ≤ t.w)
    (hpos : pos.1 < arr.length ∨ (arr = [] ∧ pos.1 = 0)) :
    RenderPost win t arr pos (renderCursorAware win t.h t.w arr pos) := by
  obtain ⟨k, hk, hk', hkh, hesc, hcoh⟩ := hrel.start
  rw [renderCursorAware_closed win t.h t.w arr pos k hk]
  simp only []
  -- of the `a` rows available `s` are painted; `n` lines are scrolled in
  generalize ha : t.h - k = a
  generalize hn : arr.length - a = n
  generalize hs : min arr.length a = s
  have hka : k + a = t.h := ha ▸ Nat.add_sub_of_le (Nat.le_of_lt hkh)
  have hlen : arr.length ≤ n + a := Nat.sub_le_iff_le_add.mp (Nat.le_of_eq hn)
  have hLlen : (arr.take s).length = s := by
    rw [List.length_take]; exact Nat.min_eq_left (hs ▸ Nat.min_le_left _ _)
  have hdl : (arr.drop s).length = n := by rw [List.length_drop, ← hs, ← Nat.sub_eq_sub_min, hn]
  have hks : k + s ≤ t.h := hka ▸ Nat.add_le_add_left (hs ▸ Nat.min_le_right _ _) k
  have hp : pos.1 < n + a := hpos.elim (fun h => Nat.lt_of_lt_of_le h hlen)
    fun h => h.2 ▸ Nat.add_pos_right n (ha ▸ Nat.sub_pos_of_lt hkh)
  have hR := cursorRow_lt (n := n) hkh hka hp
  generalize hRdef : k - n + pos.1 - (n - k) = R at hR ⊢
  have P := paint_framed _ id hesc (arr.take s) k (s := s) (m := s) t (hs := hLlen) (hm := Nat.le_refl _) (hk := hks) hbg
    (fun l hl => hrows l (List.mem_of_mem_take hl)) hcoh win.hideCursor
  dsimp only at P
  rw [ha] at P
  generalize ht2 : exec _ (_ ++ _) = t2 at P
  have h2alt : t2.alt = none := P.frame.alt.trans hrel.main
  have hfull2 := full_fit t t2 k (arr.take s) (hLlen.symm ▸ hks) P.frame.h P.frame.w P.frame.sb
    P.above P.shows
  rw [hLlen, ha] at hfull2
  have S := scrollLoop_spec t.h (arr.drop s) k 0 _ t2 P.frame.h (Nat.zero_lt_of_lt hkh) hmax h2alt P.bg
    (fun l hl => by rw [P.frame.w]; exact hrows l (List.mem_of_mem_drop hl)) P.esc P.rows
  rw [hdl] at S
  generalize scrollLoop t.h (arr.drop s) k 0 _ = c3 at S ⊢
  obtain ⟨sfull, sh, sw, salt, svis, sbg, ssb, sesc, srows⟩ := S
  generalize ht3 : exec t2 c3.2.2.2 = t3 at sfull sh sw salt svis sbg ssb srows
  have h3h : t3.h = t.h := sh.trans P.frame.h
  have h3w : t3.w = t.w := sw.trans P.frame.w
  have hexec := exec_framed t t3 win.hideCursor (_ ++ c3.2.2.2) R pos.2 (by rw [exec_append, ht2, ht3])
    (svis.trans P.frame.vis)
  constructor
  all_goals dsimp only
  case shown =>
    rw [hexec]
    show full t3 = _   -- `full` does not look at the cursor
    rw [sfull, hfull2, hk', ha, P.frame.w]
    subst hs
    simp only [List.append_assoc]
    rw [paint_then_scroll]
  case scrolled =>
    rw [hexec]
    show t3.scrollback.length = _
    rw [ssb, P.frame.sb, hk', ha, hn]
  case returned => rw [hk', ha, hn]
  case origin => rw [hk', ha, hn]
  case cursorRow =>
    rw [hexec, hk', ha, hn]
    show min R (t3.h - 1) = _
    rw [h3h, Int.toNat_natCast, hRdef, Nat.min_eq_left (Nat.le_sub_one_of_lt hR)]
  case cursorCol =>
    rw [hexec]
    show min pos.2 (t3.w - 1) = _
    rw [h3w]
  case noPendingWrap => rw [hexec]
  case lastRow =>
    rw [hexec]
    show some (R : Int) = some ((min R (t3.h - 1) : Nat) : Int)
    rw [h3h, Nat.min_eq_left (Nat.le_sub_one_of_lt hR)]
  case visible => rw [hexec]
  case height => rw [hexec]; exact h3h
  case width => rw [hexec]; exact h3w
  case bg => rw [hexec]; exact sbg
  case rel =>
    rw [hexec]
    refine ⟨sesc, ⟨Int.natCast_nonneg _, ?_⟩, salt.trans h2alt, fun _ _ => RowsShow.coherent ?_⟩
    · show ((k - n : Nat) : Int) < (t3.h : Int)
      rw [h3h]; exact Int.ofNat_lt.mpr (Nat.lt_of_le_of_lt (Nat.sub_le k n) hkh)
    · show RowsShow t3 c3.2.2.1 ((k - n : Nat) : Int).toNat
      rw [Int.toNat_natCast]; exact srows

end C07

/-- One iteration of the scroll loop on the terminal spec: `scroll_down`, move to the bottom row, write a line that fits
    (no clear needed: the row just scrolled in is blank).  Every row moves up one, the old top row is appended to the
    scrollback, and the bottom row shows the line.  (`C07.scrollIter` for a cursor on the screen.) -/
theorem C07_scroll_iter (t : Term) (line : FmtStr) (hh : 0 < t.h) (hmax : t.h ≤ 1000001) (hmain : t.alt = none)
    (hbg : t.g = {}) (hr : t.r < t.h) (hc : t.c < t.w) (hesc : EscFree line) (hlen : len line ≤ t.w) :
    let t' := exec t (scrollDown ++ [.cup ((t.h : Int) - 1).toNat 0, .putStr (render line)])
    t'.scrollback = t.scrollback ++ [t.row 0] ∧
    (∀ r c, r < t.h → c < t.w → t'.grid r c = if r + 1 < t.h then t.grid (r + 1) c else (effCells line)[c]?.getD blank) ∧
    t'.h = t.h ∧ t'.w = t.w ∧ t'.alt = t.alt ∧ t'.cursorVisible = t.cursorVisible ∧ t'.g = {} :=
  C07.scrollIter t line hh hmax hmain hbg hesc hlen

/-- the property's form of `C07.render_spec`: rows of `Glyphs` are ESC-free -/
theorem C07_render_partial (u : UEnv) (win : CAWin) (t : Term) (arr : List FmtStr) (pos : Nat × Nat)
    (hrel : Rel win t) (hbg : t.g = {}) (hmax : t.h ≤ 1000001)
    (hrows0 : ∀ l ∈ arr, Glyphs u l ∧ len l ≤ t.w)
    (hpos : pos.1 < arr.length ∨ (arr = [] ∧ pos.1 = 0)) :
    RenderPost win t arr pos (renderCursorAware win t.h t.w arr pos) :=
  render_spec win t arr pos hrel hbg hmax (fun l hl => ⟨(hrows0 l hl).1.1.escFree, (hrows0 l hl).2⟩) hpos

/-- Over ANY sequence of renders (fitting or scrolling): the relation is maintained, and everything that was above the
    window's first row at the start — scrollback and screen rows — is still there, in order and unaltered: it only
    ever moves up. -/
theorem C07_run_rel (u : UEnv) (steps more : List (List FmtStr × (Nat × Nat))) :
    ∀ (win : CAWin) (t : Term), Rel win t → t.g = {} → t.h ≤ 1000001 → C07.ValidSeq u win t (steps ++ more) →
      Rel (C07.run win t steps).1 (C07.run win t steps).2 ∧ (C07.run win t steps).2.g = {} ∧
      (C07.run win t steps).2.h = t.h ∧
      (full (C07.run win t steps).2).take (t.scrollback.length + win.top.toNat) =
        (full t).take (t.scrollback.length + win.top.toNat) ∧
      t.scrollback.length + win.top.toNat ≤
        (C07.run win t steps).2.scrollback.length + (C07.run win t steps).1.top.toNat ∧
      C07.ValidSeq u (C07.run win t steps).1 (C07.run win t steps).2 more := by
  induction steps with
  | nil => intro win t hr hb _ hv; exact ⟨hr, hb, rfl, rfl, Nat.le_refl _, hv⟩
  | cons st rest ih =>
    intro win t hr hb hmax hv
    obtain ⟨arr, pos⟩ := st
    obtain ⟨h1, h2, h3⟩ := hv
    have r := C07_render_partial u win t arr pos hr hb hmax h1 h2
    have hcut : t.scrollback.length + win.top.toNat ≤ (full t).length := by
      rw [full_length]; exact Nat.add_le_add_left (Int.toNat_le.mpr (Int.le_of_lt hr.top.2)) _
    -- the origin moves up by at most the number of lines scrolled
    have hmono : t.scrollback.length + win.top.toNat ≤
        (exec t (renderCursorAware win t.h t.w arr pos).2.1).scrollback.length +
          (renderCursorAware win t.h t.w arr pos).1.top.toNat := by
      rw [r.scrolled, r.origin, Int.toNat_natCast]
      omega
    have hstep : (full (exec t (renderCursorAware win t.h t.w arr pos).2.1)).take (t.scrollback.length + win.top.toNat)
        = (full t).take (t.scrollback.length + win.top.toNat) := by
      rw [r.shown, List.append_assoc,
        List.take_append_of_le_length (by rw [List.length_take]; exact Nat.le_min.mpr ⟨Nat.le_refl _, hcut⟩),
        List.take_take, Nat.min_self]
    obtain ⟨i1, i2, i3, i4, i5, i6⟩ := ih _ _ r.rel r.bg (by rw [r.height]; exact hmax) h3
    refine ⟨i1, i2, by rw [C07.run, i3, r.height], ?_, by rw [C07.run]; exact Nat.le_trans hmono i5, i6⟩
    rw [C07.run]
    have := congrArg (List.take (t.scrollback.length + win.top.toNat)) i4
    rw [List.take_take, List.take_take, Nat.min_eq_left hmono] at this
    rw [this, hstep]

/-- After EVERY render of every history of renders — whatever was rendered before, however much scrolled — all the
    clauses (a)-(g) of `C07.RenderPost` hold for that render (relative to the terminal just before it), and everything
    that was above the window's first row at the very start is still there unaltered. -/
theorem C07_history_partial (u : UEnv) (steps : List (List FmtStr × (Nat × Nat))) (arr : List FmtStr) (pos : Nat × Nat)
    (win : CAWin) (t : Term) (hrel : Rel win t) (hg : t.g = {}) (hmax : t.h ≤ 1000001)
    (hv : C07.ValidSeq u win t (steps ++ [(arr, pos)])) :
    RenderPost (C07.run win t steps).1 (C07.run win t steps).2 arr pos
      (renderCursorAware (C07.run win t steps).1 (C07.run win t steps).2.h (C07.run win t steps).2.w arr pos) ∧
    (full (C07.run win t (steps ++ [(arr, pos)])).2).take (t.scrollback.length + win.top.toNat) =
      (full t).take (t.scrollback.length + win.top.toNat) := by
  obtain ⟨i1, i2, i3, _, _, i6⟩ := C07_run_rel u steps [(arr, pos)] win t hrel hg hmax hv
  obtain ⟨h1, h2, _⟩ := i6
  refine ⟨C07_render_partial u _ _ arr pos i1 i2 (by rw [i3]; exact hmax) h1 h2, ?_⟩
  have := C07_run_rel u (steps ++ [(arr, pos)]) [] win t hrel hg hmax (by simpa using hv)
  exact this.2.2.2.1

/-- C07 and C18 composed: after a render the window knows the terminal's cursor row (`lastRow`); if the terminal
    content then moves by `k` rows (the cursor with it) the next `_get_cursor_vertical_diff_once` accounts for
    exactly `k`: (change of top_usable_row) + returned = k. -/
theorem C07_then_diff (win : CAWin) (t : Term) (arr : List FmtStr) (pos : Nat × Nat) (k : Int)
    (h : RenderPost win t arr pos (renderCursorAware win t.h t.w arr pos)) :
    ((diffOnce (renderCursorAware win t.h t.w arr pos).1
        (((exec t (renderCursorAware win t.h t.w arr pos).2.1).r : Int) + k)).1.top -
      (renderCursorAware win t.h t.w arr pos).1.top) +
    (diffOnce (renderCursorAware win t.h t.w arr pos).1
        (((exec t (renderCursorAware win t.h t.w arr pos).2.1).r : Int) + k)).2 = k := by
  have c := (C18_conserve (renderCursorAware win t.h t.w arr pos).1
    (((exec t (renderCursorAware win t.h t.w arr pos).2.1).r : Int) + k)).2
  rw [h.lastRow] at c
  simp only at c
  omega

/-- `__exit__` touches only rows from the cursor row down (below it when keep_last_line is set); when the cursor is
    on the bottom row and keep_last_line is set the screen scrolls one line (the top row goes to scrollback, nothing
    is lost) and the new bottom row is blank. -/
theorem C07_exit (win : CAWin) (t : Term) (hr : t.r < t.h) (hbg : t.g = {}) (hmain : t.alt = none) :
    (win.keepLastLine = false →
      (exec t (cursorAwareExit win)).scrollback = t.scrollback ∧
      (∀ r c, r < t.r → (exec t (cursorAwareExit win)).grid r c = t.grid r c) ∧
      (∀ r c, t.r ≤ r → (exec t (cursorAwareExit win)).grid r c = blank)) ∧
    (win.keepLastLine = true → t.r + 1 < t.h →
      (exec t (cursorAwareExit win)).scrollback = t.scrollback ∧
      (∀ r c, r ≤ t.r → (exec t (cursorAwareExit win)).grid r c = t.grid r c) ∧
      (∀ r c, t.r < r → (exec t (cursorAwareExit win)).grid r c = blank)) ∧
    (win.keepLastLine = true → t.r + 1 = t.h →
      (exec t (cursorAwareExit win)).scrollback = t.scrollback ++ [t.row 0] ∧
      (∀ r c, r + 1 < t.h → (exec t (cursorAwareExit win)).grid r c = t.grid (r + 1) c) ∧
      (∀ r c, t.h ≤ r + 1 → (exec t (cursorAwareExit win)).grid r c = blank)) ∧
    (exec t (cursorAwareExit win)).cursorVisible = (if win.hideCursor then true else t.cursorVisible) ∧
    (exec t (cursorAwareExit win)).h = t.h ∧ (exec t (cursorAwareExit win)).w = t.w := by
  rw [cursorAwareExit, List.append_assoc, exec_append]
  cases hk : win.keepLastLine
  · -- no line feed
    rw [show exec t (if false = true then [TermOp.lf] else []) = t from rfl, exec_cha_ed0_el0 t _ hbg]
    exact ⟨fun _ => ⟨rfl, fun r c hlt => if_neg (Nat.not_le_of_lt hlt), fun r c hle => if_pos hle⟩, nofun, nofun, rfl, rfl, rfl⟩
  · by_cases hlt : t.r + 1 < t.h
    · -- the line feed moves the cursor down
      have e1 : exec t (if true = true then [TermOp.lf] else []) = { t with r := t.r + 1, pw := false } := by
        simp [Term.step, Term.index, hlt]
      rw [e1, exec_cha_ed0_el0 { t with r := t.r + 1, pw := false } _ hbg]
      exact ⟨nofun,
        fun _ _ => ⟨rfl, fun r c hle => if_neg (Nat.not_le_of_lt (Nat.lt_succ_of_le hle)), fun r c hgt => if_pos hgt⟩,
        fun _ h => absurd h (Nat.ne_of_lt hlt), rfl, rfl, rfl⟩
    · -- the line feed scrolls
      have e1 : exec t (if true = true then [TermOp.lf] else []) = { t.scrollUp with pw := false } := by
        simp [Term.step, Term.index, hlt]
      rw [e1, exec_cha_ed0_el0 { t.scrollUp with pw := false } _ hbg]
      refine ⟨nofun, fun _ h => absurd h hlt, fun _ heq => ⟨?_, fun r c hlt' => ?_, fun r c hge => ?_⟩, rfl, rfl, rfl⟩
      · show (if t.alt.isNone then t.scrollback ++ [t.row 0] else t.scrollback) = _
        rw [hmain]; rfl
      · have hr : r < t.r := Nat.lt_of_succ_lt_succ (Nat.lt_of_lt_of_eq hlt' heq.symm)
        exact (if_neg (Nat.not_le_of_lt hr)).trans (if_pos hlt')
      · exact if_pos (show t.r ≤ r from Nat.le_of_succ_le_succ (Nat.le_trans (Nat.le_of_eq heq) hge))

namespace C07

theorem chars_map_char (l : List Char) : C18.chars (l.map Read.char) = l := by
  induction l with
  | nil => rfl
  | cons x xs ih => simp [C18.chars, ih]

theorem sane_ascii : C18.SaneDigits Spec.digitVal := ⟨by decide, by decide, by decide, by decide⟩

end C07

/-- `__enter__`: the window asks the terminal where the cursor is (`ESC[6n`); the terminal's own answer, read back
    through `get_cursor_position`, makes `top_usable_row` the terminal's cursor row (whatever that row and column are).
    (What is left unread and what the callback gets is C18_parse's; it is projected away here.) -/
theorem C07_enter (win : CAWin) (t : Term) (cb : Bool) :
    ∃ reply, (exec t [.dsr]).replies = t.replies ++ [reply] ∧
      (cursorAwareEnter Spec.digitVal cb win (reply.map Read.char)).map (fun x => (x.1, x.2.1)) =
        some (.ok { win with top := (t.r : Int) }, [TermOp.dsr] ++ (if win.hideCursor then [TermOp.hide] else [])) := by
  refine ⟨[Spec.ESC, '['] ++ decimal (t.r + 1) ++ [';'] ++ decimal (t.c + 1) ++ ['R'], rfl, ?_⟩
  have h1 := C18_decimal (t.r + 1)
  have h2 := C18_decimal (t.c + 1)
  have hp := C18_parse Spec.digitVal sane_ascii cb [] [Curtsies.ESC, '['] (decimal (t.r + 1)) (decimal (t.c + 1))
    (([Curtsies.ESC, '['] ++ decimal (t.r + 1) ++ [';'] ++ decimal (t.c + 1)).map Read.char) []
    (Or.inl rfl) h1.1 h2.1
    -- nothing was typed ahead, and in `[] = a ++ b ++ c` there is no report-shaped `b`: it is empty
    (fun a b c h hrs => hrs.ne_nil (List.append_eq_nil_iff.mp (List.append_eq_nil_iff.mp h.symm).1).2)
    (by rw [chars_map_char]; simp) (by simp)
  have e : ([Spec.ESC, '['] ++ decimal (t.r + 1) ++ [';'] ++ decimal (t.c + 1) ++ ['R']).map Read.char =
      (([Curtsies.ESC, '['] ++ decimal (t.r + 1) ++ [';'] ++ decimal (t.c + 1)).map Read.char) ++ [Read.char 'R'] ++ [] := by
    simp [Spec.ESC, Curtsies.ESC]
  unfold cursorAwareEnter
  rw [e, hp, h1.2, h2.2]
  simp

/-- ... and the freshly entered window is related to the terminal: `C07_render_partial` applies to its first render. -/
theorem C07_enter_rel (win : CAWin) (t : Term) (hc : win.cache = []) (hr : t.r < t.h) (hmain : t.alt = none) :
    Rel { win with top := (t.r : Int) } (exec t ([TermOp.dsr] ++ (if win.hideCursor then [TermOp.hide] else []))) ∧
    (exec t ([TermOp.dsr] ++ (if win.hideCursor then [TermOp.hide] else []))).g = t.g ∧
    (exec t ([TermOp.dsr] ++ (if win.hideCursor then [TermOp.hide] else []))).grid = t.grid ∧
    (exec t ([TermOp.dsr] ++ (if win.hideCursor then [TermOp.hide] else []))).scrollback = t.scrollback := by
  have e : exec t ([TermOp.dsr] ++ (if win.hideCursor then [TermOp.hide] else [])) =
      { t.step .dsr with cursorVisible := if win.hideCursor then false else t.cursorVisible } := by
    cases win.hideCursor <;> rfl
  rw [e]
  exact ⟨⟨hc ▸ cacheEsc_nil, ⟨Int.natCast_nonneg _, Int.ofNat_lt.mpr hr⟩, hmain, fun _ _ hne => absurd hc hne⟩,
    rfl, rfl, rfl⟩

/-- The property for one render as its text has it: NO bound on the row lengths ("if array received is of width too
    large, render it anyway").  FALSE of the code: finding D41, `C07_D41_witness`. -/
def C07_render_full_statement : Prop :=
  ∀ (u : UEnv) (win : CAWin) (t : Term) (arr : List FmtStr) (pos : Nat × Nat),
    Rel win t → t.g = {} → t.h ≤ 1000001 → (∀ l ∈ arr, Glyphs u l) →
    (pos.1 < arr.length ∨ (arr = [] ∧ pos.1 = 0)) →
    RenderPost win t arr pos (renderCursorAware win t.h t.w arr pos)

namespace C07
def d41Win : CAWin := { top := 2 }
def d41Term : Term := { h := 3, w := 3, r := 2, grid := fun r _ => if r < 2 then ('$', {}) else blank }
def d41Arr : List FmtStr := [[⟨"abcde".toList, {}⟩]]
end C07

/-- D41 on the model and the terminal spec: 3x3 terminal, two lines of earlier output, window entered on the bottom
    row; rendering the single row 'abcde' wraps after 'abc' and scrolls the screen: one line goes to the scrollback,
    yet 0 is returned and top_usable_row stays 2. -/
theorem C07_D41_witness :
    (exec d41Term (renderCursorAware d41Win 3 3 d41Arr (0, 0)).2.1).scrollback.length = 1 ∧
    (renderCursorAware d41Win 3 3 d41Arr (0, 0)).2.2 = 0 ∧
    (renderCursorAware d41Win 3 3 d41Arr (0, 0)).1.top = 2 := by
  decide +kernel

theorem C07_D41_refutes : ¬ C07_render_full_statement := by
  intro h
  have hrel : Rel d41Win d41Term := ⟨cacheEsc_nil, by decide, rfl, fun h => by simp [d41Win] at h⟩
  have r := h ⟨fun _ => 1, fun _ => false⟩ d41Win d41Term d41Arr (0, 0) hrel rfl (by decide)
    (by
      intro l hl
      simp [d41Arr] at hl
      subst hl
      refine ⟨?_, fun _ _ => rfl⟩
      intro ch hch; revert ch; decide)
    (Or.inl (by decide))
  -- (c) allows no line to scroll; one did
  have := r.scrolled
  have w := C07_D41_witness.1
  simp only [d41Term] at this w
  rw [w] at this
  revert this
  decide

/-- `C07_history_partial` without the bound on the row lengths: FALSE of the code for the same reason (D41). -/
def C07_history_full_statement : Prop :=
  ∀ (u : UEnv) (steps : List (List FmtStr × (Nat × Nat))) (arr : List FmtStr) (pos : Nat × Nat) (win : CAWin) (t : Term),
    Rel win t → t.g = {} → t.h ≤ 1000001 → C07.ValidSeqFull u win t (steps ++ [(arr, pos)]) →
    RenderPost (C07.run win t steps).1 (C07.run win t steps).2 arr pos
      (renderCursorAware (C07.run win t steps).1 (C07.run win t steps).2.h (C07.run win t steps).2.w arr pos)

theorem C07_D41_history_refutes : ¬ C07_history_full_statement := fun h =>
  C07_D41_refutes fun u win t arr pos hr hg hm hrows hpos => h u [] arr pos win t hr hg hm ⟨hrows, hpos, trivial⟩

end Curtsies
