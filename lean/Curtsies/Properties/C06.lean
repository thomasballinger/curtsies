/-
  C06 - Indexing, slicing, +, * and join act like str and carry formatting along.

  `cells f` is the per-character view (character, attribute dict of its run); `text f = (cells f).map fst`
  (`C06_text`) and `len f = (cells f).length` (`C06_len`), so each theorem about `cells` gives the "same text as
  str", "len = number of characters" and "every character keeps its formatting" clauses at once.
  Python's own slicing/indexing/repeat/join semantics are the independent definitions in Spec/PySlice.lean.

  Hypotheses: none beyond the types, except for plain-`str` ITEMS OF JOIN: `+` wraps a str operand with
  `Chunk(other)` (no parsing, `C06_add_str`/`C06_radd_str` hold for every text), but `join` converts str items
  with `fmtstr(s)`, which parses escape sequences. For str items free of `ESC[` the conversion is the identity
  wrapping (`fromStr_noEsc`, the fact `C17_plain` states) and `C06_join_items_partial` gives the property; for a str
  item containing `ESC[` the property is FALSE of the code (open finding D27): `C06_join_items_full_statement` is the
  statement without that hypothesis, refuted by `C06_D27_witness`.  A slice step is rejected (`C06_step`, outside the
  statement).
-/
import Curtsies.Model.FmtStr
import Curtsies.Model.Operand
import Curtsies.Spec.PySlice
import Curtsies.Proofs.Slice
namespace Curtsies
open Spec

/-- The left side is a bound as `normalizeSlice` computes it (`d` the default), clamped to the length. -/
private theorem bound_eq (L : Nat) (x : Option Int) (d : Nat) (hd : d ≤ L) :
    min (if x.getD d < 0 then max 0 ((L : Int) + x.getD d) else x.getD d).toNat L = sliceBound L x d := by
  cases x with
  | none =>
    simp only [Option.getD_none, sliceBound, if_neg (Int.not_lt.mpr (Int.natCast_nonneg d)), Int.toNat_natCast,
      Nat.min_eq_left hd]
  | some v =>
    simp only [Option.getD_some, sliceBound]
    by_cases h : v < 0
    · simp only [if_pos h]; omega
    · simp only [if_neg h]

theorem getitem_ok (f : FmtStr) (idx : Index) (s e : Nat)
    (h : normalizeSlice (len f) idx = .ok (s, e)) : getitem f idx = .ok (getslice f s e) := by
  simp [getitem, h, bind, Except.bind, getslice, pure, Except.pure]

/-- Slicing: for every FmtStr and every pair of bounds (negative, None, past the end, empty ranges),
    `f[a:b]` succeeds and its cells are Python's slice of the cells of `f`. -/
theorem C06_slice (f : FmtStr) (a b : Option Int) :
    ∃ r, getitem f (.slice a b false) = .ok r ∧ cells r = pySlice (cells f) a b := by
  refine ⟨_, getitem_ok f _ _ _ rfl, ?_⟩
  rw [getslice_cells, take_drop_clamp, pySlice, cells_length]
  have e1 := bound_eq (len f) a 0 (Nat.zero_le _)
  have e2 := bound_eq (len f) b (len f) (Nat.le_refl _)
  simp only [Int.natCast_zero] at e1
  rw [← e1, ← e2]

/-- Slicing with a step is not supported (outside the property; stated so that nothing is totalised). -/
theorem C06_step (f : FmtStr) (a b : Option Int) :
    getitem f (.slice a b true) = .error .notImplementedError := by
  simp [getitem, normalizeSlice, bind, Except.bind]

/-- Integer indexing: in range (negative indices included) gives exactly that one cell; out of range
    raises IndexError, as `str` does. -/
theorem C06_index (f : FmtStr) (i : Int) :
    (match pyIndex (cells f) i with
     | some c => ∃ r, getitem f (.int i) = .ok r ∧ cells r = [c]
     | none => getitem f (.int i) = .error .indexError) := by
  have hL : (cells f).length = len f := cells_length f
  have hn := normalizeSlice_int (len f) i
  unfold pyIndex
  simp only [hL]
  by_cases h1 : 0 ≤ i ∧ i < (len f : Int)
  · rw [if_pos h1] at hn ⊢
    have hk : i.toNat < (cells f).length := by omega
    rw [List.getElem?_eq_getElem hk]
    exact ⟨_, getitem_ok f _ _ _ hn, by rw [getslice_cells, take_succ_drop _ _ hk]⟩
  · rw [if_neg h1] at hn ⊢
    by_cases h2 : i < 0 ∧ -(len f : Int) ≤ i
    · rw [if_pos h2] at hn ⊢
      have hk : ((len f : Int) + i).toNat < (cells f).length := by omega
      rw [List.getElem?_eq_getElem hk]
      exact ⟨_, getitem_ok f _ _ _ hn, by rw [getslice_cells, take_succ_drop _ _ hk]⟩
    · rw [if_neg h2] at hn ⊢
      simp [getitem, hn, bind, Except.bind]

theorem C06_add (f g : FmtStr) : cells (add f g) = cells f ++ cells g := by simp [add]
/-- `f + "str"`: the str's characters are unformatted. -/
theorem C06_add_str (f : FmtStr) (t : Text) : cells (addStr f t) = cells f ++ plainCells t := cells_addStr f t
theorem C06_radd_str (f : FmtStr) (t : Text) : cells (raddStr f t) = plainCells t ++ cells f := cells_raddStr f t

/-- `f * n` for every integer n (negative counts give the empty string). -/
theorem C06_mul (f : FmtStr) (n : Int) : cells (mul f n) = pyRepeat (cells f) n := by
  simp only [mul, pyRepeat]
  induction n.toNat with
  | zero => simp
  | succ k ih => simp [List.replicate_succ, ih]

/-- `n * f` (reflected repetition, `__rmul__ = __mul__`) -/
theorem C06_rmul (f : FmtStr) (n : Int) : cells (rmul n f) = pyRepeat (cells f) n := C06_mul f n

theorem C06_join (sep : FmtStr) (items : List FmtStr) :
    cells (join sep items) = pyJoin (cells sep) (items.map cells) := join_cells sep items

/-- The full statement for join with str items: every str item's characters come out verbatim and
    unformatted.  FALSE of the code for str items containing `ESC[` (finding D27). -/
def C06_join_items_full_statement : Prop :=
  ∀ (md : Nat) (sep : FmtStr) (items : List Operand),
    ∃ r, joinItems md sep items = .ok r ∧ cells r = pyJoin (cells sep) (items.map Operand.cells)

/-- join with str / FmtStr items, str items free of `ESC[` (complement of D27's footprint). -/
theorem C06_join_items_partial (md : Nat) (sep : FmtStr) (items : List Operand) (h : ∀ o ∈ items, o.EscFree) :
    ∃ r, joinItems md sep items = .ok r ∧ cells r = pyJoin (cells sep) (items.map Operand.cells) := by
  have hgs := mapM_ok items fun o ho => toFmt_noEsc md o (NoEsc_of_EscFree o (h o ho))
  refine ⟨join sep (items.map asFmt), by simp [joinItems, hgs, Except.map], ?_⟩
  rw [C06_join, List.map_map]
  exact congrArg _ (List.map_congr_left fun o _ => asFmt_cells o)

/-- D27 on the model: the str item "ESC[31mx" is parsed - one red character instead of six plain ones. -/
theorem C06_D27_witness :
    joinItems 4300 [] [.str [ESC, '[', '3', '1', 'm', 'x']] = .ok [⟨['x'], {fg := some 1}⟩] ∧
    ¬ C06_join_items_full_statement := by
  have h1 : joinItems 4300 [] [.str [ESC, '[', '3', '1', 'm', 'x']] = .ok [⟨['x'], {fg := some 1}⟩] := by
    decide +kernel
  refine ⟨h1, fun hfull => ?_⟩
  obtain ⟨r, hr, hc⟩ := hfull 4300 [] [.str [ESC, '[', '3', '1', 'm', 'x']]
  rw [h1] at hr
  cases hr
  revert hc
  decide

theorem C06_add_text (f g : FmtStr) : text (add f g) = text f ++ text g := text_append f g
theorem C06_add_str_text (f : FmtStr) (t : Text) : text (addStr f t) = text f ++ t := by
  simp [text_eq_cells, C06_add_str, plainCells, List.map_map, Function.comp_def]
theorem C06_radd_str_text (f : FmtStr) (t : Text) : text (raddStr f t) = t ++ text f := by
  simp [text_eq_cells, C06_radd_str, plainCells, List.map_map, Function.comp_def]
theorem C06_mul_text (f : FmtStr) (n : Int) : text (mul f n) = pyRepeat (text f) n := by
  simp only [text_eq_cells, C06_mul, pyRepeat, List.map_flatten, List.map_replicate]

/-- So a result whose cells are the str-operation of the operands' cells has the str-operation's text. -/
theorem C06_text (f : FmtStr) : text f = (cells f).map Prod.fst := text_eq_cells f
theorem C06_len (f : FmtStr) : len f = (cells f).length := (cells_length f).symm

theorem C06_slice_text (f : FmtStr) (a b : Option Int) :
    ∃ r, getitem f (.slice a b false) = .ok r ∧ text r = pySlice (text f) a b ∧
      len r = (pySlice (text f) a b).length := by
  obtain ⟨r, h1, h2⟩ := C06_slice f a b
  refine ⟨r, h1, ?_, ?_⟩
  · rw [text_eq_cells, h2, text_eq_cells]
    simp [pySlice, List.map_take, List.map_drop]
  · rw [← cells_length, h2, text_eq_cells]
    simp [pySlice]

/-- Non-vacuity: a three-run string with an empty run, negative bounds. -/
example : ∃ r, getitem [⟨['a','b'], {fg := some 1}⟩, ⟨[], {}⟩, ⟨['c','d'], {bold := some true}⟩]
    (.slice (some (-3)) (some (-1)) false) = .ok r ∧
    cells r = [('b', {fg := some 1}), ('c', {bold := some true})] := ⟨_, rfl, by decide⟩

end Curtsies
