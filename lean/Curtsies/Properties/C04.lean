/-
  C04 - FSArray region assignment composites exactly the assigned block.

  `grid a r c` is what cell (r, c) of the array shows: the stored cell `(character, attribute dict)`, and `blankCell`
  (an unformatted space, also what `setslice_with_length` pads with) beyond the stored end of a row and below the last
  row. `C04_paint g r0 r1 c0 c1 block` is the picture the property asks for: the region shows the block rows padded
  with blanks, every other cell is `g`.

  Model: Model/FSArray.lean + Model/SpliceOp.lean; `md` is the parser model's CPython digit-limit parameter.
  The full statement `C04_full_statement` (every block, plain-str rows verbatim and unformatted) is refuted for the
  model (= the code) by `C04_D19_witness` (over-long row spilling into blank cells) and `C04_D27_witness` (a str row
  containing an SGR sequence is parsed and measured raw; `C04_D27_fsarray` for `fsarray`).

  Domain: row subscripts `r0:r1` with explicit `0 <= r0 <= r1`, or ints; columns `0 <= c0 <= c1`, `c0 <= width`. The
  region may reach past the right edge: `C04_assign_partial` asks `c0 + len <= width` of every row,
  `C04_reject_partial` rejects a row with `c0 + len > width`; `C04_full_statement` and `C04_history` keep `c1 <= width`
  (a region starting beyond the right edge is outside: the text is silent there); the reads (`C04_read*`) hold for
  every `r0, r1, c0, c1`. For the rejection clause the region has cells (`r0 < r1`, `c0 < c1`): on a zero-area region
  the statement requires no error (the code returns early), only "no cell changes" (`C04_empty_region_noop`). A `str`
  value only for regions of at most one column (the code rejects it otherwise).
  `_partial` theorems carry `Operand.EscFree` for plain-str rows (complement of D27's footprint) and, for rejection,
  the complement of D19's footprint.
-/
import Curtsies.Model.FSArray
import Curtsies.Proofs.FSArray
namespace Curtsies
open FSArray Splice

def C04_paint (g : Nat → Nat → Cell) (r0 r1 c0 c1 : Nat) (block : List (List Cell)) : Nat → Nat → Cell :=
  fun r c => if r0 ≤ r ∧ r < r1 ∧ c0 ≤ c ∧ c < c1 then padCell ((block[r - r0]?).getD []) (c - c0) else g r c

/-- The assignment on matrices of cells; `C04_assign_partial` reduces the code to this form (`setRows_ok`). -/
theorem FSArray.shown_assign (M B : List (List Cell)) (r0 r1 c0 c1 : Nat) (hr : r0 ≤ r1) (hl : r1 ≤ M.length)
    (hc : c0 ≤ c1) (hB : B.length = r1 - r0) (hfit : ∀ V ∈ B, V.length ≤ c1 - c0) (r c : Nat) :
    shown (M.take r0 ++ List.zipWith (fun F V => setCells F V c0 c1) ((M.take r1).drop r0) B ++ M.drop r1) r c
      = C04_paint (shown M) r0 r1 c0 c1 B r c := by
  unfold shown C04_paint
  rw [getElem?_splice M _ r0 r1 hr hl
    (by rw [List.length_zipWith, List.length_drop, List.length_take_of_le hl, hB, Nat.min_self])]
  by_cases hin : r0 ≤ r ∧ r < r1
  · have hM : r < M.length := Nat.lt_of_lt_of_le hin.2 hl
    have hi : r - r0 < B.length := by rw [hB]; exact Nat.sub_lt_sub_right hin.1 hin.2
    rw [if_pos hin, List.getElem?_zipWith, List.getElem?_drop, Nat.add_sub_cancel' hin.1,
      List.getElem?_take_of_lt hin.2, List.getElem?_eq_getElem hM, List.getElem?_eq_getElem hi]
    simp only [Option.getD_some]
    rw [padCell_setCells _ _ _ _ hc (hfit _ (List.getElem_mem hi))]
    by_cases hcc : c0 ≤ c ∧ c < c1
    · rw [if_pos hcc, if_pos ⟨hin.1, hin.2, hcc.1, hcc.2⟩]
    · rw [if_neg hcc, if_neg fun h => hcc h.2.2, List.getElem?_eq_getElem hM, Option.getD_some]
  · rw [if_neg hin, if_neg fun h => hin ⟨h.1, h.2.1⟩]

/-- "never makes a row wider than the array": for EVERY subscript and value, whatever the outcome. -/
theorem C04_width_invariant (md : Nat) (a : FSArr) (r c : Index) (value : Block) (hw : WF a) :
    WF (a.setRegion md r c value).1 ∧ (a.setRegion md r c value).1.numColumns = a.numColumns := by
  rcases setRegion_cases md a r c value with ⟨_, h⟩ | ⟨rs, _, h⟩ | ⟨rs, new, _, h⟩
  · rw [h]; exact ⟨hw, rfl⟩
  · rw [h]; exact ⟨WF_extended a rs.2 hw, rfl⟩
  · rw [h.state]
    refine ⟨?_, rfl⟩
    intro f hf
    have hwe := WF_extended a rs.2 hw
    simp only [List.mem_append] at hf
    rcases hf with (hf | hf) | hf
    · exact hwe f (List.mem_of_mem_take hf)
    · exact h.width f hf
    · exact hwe f (List.mem_of_mem_drop hf)

/-- "raises an error and changes no cell": for EVERY subscript and value (the rows may have been extended with blank
    rows first; they show blank, as the cells below the array did). -/
theorem C04_error_unchanged (md : Nat) (a : FSArr) (r c : Index) (value : Block) (e : PyErr)
    (he : (a.setRegion md r c value).2 = .error e) (r' c' : Nat) :
    grid (a.setRegion md r c value).1 r' c' = grid a r' c' := by
  rcases setRegion_cases md a r c value with ⟨_, h⟩ | ⟨rs, _, h⟩ | ⟨_, _, _, h⟩
  · rw [h]
  · rw [h, grid_extended]
  · rw [h.ok] at he; cases he

/-- Height, for EVERY value and column subscript, also when the call raises: the code extends `rows` with blank rows
    BEFORE it validates, so a rejected assignment can leave the array taller. -/
theorem C04_height (md : Nat) (a : FSArr) (r0 r1 : Nat) (c : Index) (value : Block) :
    (a.setRegion md (.slice (some (r0 : Int)) (some (r1 : Int))) c value).1.rows.length = max a.rows.length r1 :=
  setRegion_height md a _ c value (r0, r1) (normalizeSlice_nat _ r0 r1)

/-- Region assignment with a block that fits: `a[r0:r1, c0:c1] = block` succeeds and shows `C04_paint`; the array has
    grown to `max height r1` rows; no row is wider than the array; the width is unchanged. -/
theorem C04_assign_partial (md : Nat) (a : FSArr) (r0 r1 c0 c1 : Nat) (value : Block)
    (hw : WF a) (hr : r0 ≤ r1) (hc : c0 ≤ c1) (hW : ∀ it ∈ value.items, c0 + it.rawLen ≤ a.numColumns)
    (hrows : value.items.length = r1 - r0) (hfit : ∀ it ∈ value.items, it.rawLen ≤ c1 - c0)
    (hstr : ¬ (value.isStr = true ∧ c1 - c0 > 1)) (hesc : ∀ it ∈ value.items, it.EscFree) :
    ∃ a', a.setRegion md (.slice (some (r0 : Int)) (some (r1 : Int))) (.slice (some (c0 : Int)) (some (c1 : Int))) value
        = (a', .ok ()) ∧
      (∀ r c, grid a' r c = C04_paint (grid a) r0 r1 c0 c1 (value.items.map Operand.cells) r c) ∧
      a'.rows.length = max a.rows.length r1 ∧ WF a' ∧ a'.numColumns = a.numColumns := by
  have g2 : ¬ (slicesize (c0, c1) > 1 ∧ value.isStr = true) := fun ⟨h, hs⟩ =>
    hstr ⟨hs, by simp only [slicesize] at h; omega⟩
  have g3 : ¬ slicesize (r0, r1) ≠ (value.items.length : Int) := by simp only [slicesize]; omega
  have hinv := C04_width_invariant md a (.slice (some r0) (some r1)) (.slice (some c0) (some c1)) value hw
  have hh := C04_height md a r0 r1 (.slice (some c0) (some c1)) value
  -- height and width are those of every call; name the call's result, then compute it
  generalize hp : a.setRegion md _ _ value = p at hinv hh ⊢
  rw [setRegion_of_norm md a _ _ value _ _ (normalizeSlice_nat _ r0 r1) (normalizeSlice_nat _ c0 c1)] at hp
  by_cases he : slicesize (c0, c1) = 0 ∨ slicesize (r0, r1) = 0
  · -- a region without cells: nothing is painted
    rw [if_pos he] at hp
    subst hp
    refine ⟨_, rfl, fun r c => ?_, hh, hinv⟩
    simp only [slicesize] at he
    rw [grid_extended, C04_paint, if_neg (by omega)]
  · have hl1 := le_extended_length a r1
    obtain ⟨new, hnew, hcells⟩ := setRows_ok md c0 c1 a.numColumns hc (listSlice (a.extended r1).rows (r0, r1))
      value.items (fun f hf => WF_extended a r1 hw f (List.mem_of_mem_take (List.mem_of_mem_drop hf)))
      (fun v hv => ⟨hW v hv, hfit v hv, NoEsc_of_EscFree v (hesc v hv)⟩)
      (by rw [listSlice_length _ _ _ hl1, hrows])
    rw [if_neg he, if_neg g2, if_neg g3, hnew] at hp
    subst hp
    refine ⟨_, rfl, fun r c => ?_, hh, hinv⟩
    -- the stored cells are the old matrix with `setCells` applied to the region rows; `shown_assign` reads that
    rw [grid_eq_shown]
    simp only [List.map_append, List.map_take, List.map_drop, hcells, listSlice]
    rw [shown_assign _ _ r0 r1 c0 c1 hr (by rw [List.length_map]; exact hl1) hc (by rw [List.length_map, hrows])
      (fun V hV => by
        obtain ⟨it, hit, rfl⟩ := List.mem_map.mp hV
        rw [cells_rawLen]; exact hfit it hit)]
    have hpaint : ∀ r c, shown ((a.extended r1).rows.map cells) r c = grid a r c := fun r c => by
      rw [← grid_eq_shown, grid_extended]
    simp only [C04_paint, hpaint]

/-- A block that does not fit its region (`hr`, `hc`: the region has cells - the statement's domain) is rejected -
    raises, no cell changes - when it has the wrong number of rows, or some row `i` is longer than the region and
    either the existing row `r0+i` continues past the region (`AssertionError`: it would reach into existing content)
    or `c0 + len` exceeds the width (`ValueError`). Missing from `C04_full_statement`: over-long rows meeting an
    existing row that ends at or before `c1` while the result fits the width (finding D19, `C04_D19_witness`). -/
theorem C04_reject_partial (md : Nat) (a : FSArr) (r0 r1 c0 c1 : Nat) (value : Block)
    (hr : r0 < r1) (hc : c0 < c1)
    (hbad : value.items.length ≠ r1 - r0 ∨
      ∃ (i : Nat) (it : Operand), value.items[i]? = some it ∧ it.rawLen > c1 - c0 ∧ it.EscFree ∧
        (rowLen a (r0 + i) > c1 ∨ c0 + it.rawLen > a.numColumns)) :
    ∃ e, (a.setRegion md (.slice (some (r0 : Int)) (some (r1 : Int))) (.slice (some (c0 : Int)) (some (c1 : Int))) value).2
        = .error e ∧
      ∀ r c, grid (a.setRegion md (.slice (some (r0 : Int)) (some (r1 : Int)))
        (.slice (some (c0 : Int)) (some (c1 : Int))) value).1 r c = grid a r c := by
  suffices key : ∃ e, (a.setRegion md (.slice (some (r0 : Int)) (some (r1 : Int)))
      (.slice (some (c0 : Int)) (some (c1 : Int))) value).2 = .error e by
    obtain ⟨e, he⟩ := key
    exact ⟨e, he, C04_error_unchanged md a _ _ value e he⟩
  rw [setRegion_of_norm md a _ _ value _ _ (normalizeSlice_nat _ r0 r1) (normalizeSlice_nat _ c0 c1),
    if_neg (by simp only [slicesize]; omega)]
  by_cases g2 : slicesize (c0, c1) > 1 ∧ value.isStr = true
  · exact ⟨_, by rw [if_pos g2]⟩
  by_cases hcount : slicesize (r0, r1) ≠ (value.items.length : Int)
  · exact ⟨_, by rw [if_neg g2, if_pos hcount]⟩
  rw [if_neg g2, if_neg hcount]
  simp only [slicesize, Decidable.not_not] at hcount
  rcases hbad with hbad | ⟨i, it, hit, hlen, hitesc, hwhy⟩
  · omega
  · have hi : i < value.items.length := (List.getElem?_eq_some_iff.mp hit).1
    have hir : r0 + i < r1 := by omega
    have hlt : r0 + i < (a.extended r1).rows.length := Nat.lt_of_lt_of_le hir (le_extended_length a r1)
    obtain ⟨e1, he1⟩ := setsliceOp_reject md ((a.extended r1).rows[r0 + i]) it c0 c1 a.numColumns
      (Nat.le_of_lt hc) hlen (NoEsc_of_EscFree it hitesc)
      (by rwa [← rowLen_extended a r1, rowLen, List.getElem?_eq_getElem hlt] at hwhy)
    obtain ⟨e', he'⟩ := setRows_error md c0 c1 a.numColumns (listSlice (a.extended r1).rows (r0, r1))
      value.items i _ it e1 (by rw [listSlice_get _ _ _ _ hir, List.getElem?_eq_getElem hlt]) hit he1
    simp only [he']
    exact ⟨_, rfl⟩

/-- The property's assignment clauses as one statement over ALL region assignments with `0 ≤ r0 ≤ r1`,
    `0 ≤ c0 ≤ c1 ≤ width`: a fitting block is composited exactly; any other block, on a region that has cells, raises
    and changes nothing. It is FALSE for the code as it is (`C04_D19_witness`, `C04_D27_witness`); what holds:
    `C04_assign_partial` (first half, plain-str rows free of `ESC [`), `C04_width_invariant` and `C04_error_unchanged`
    (every call), `C04_reject_partial` (second half outside D19's footprint). -/
def C04_full_statement : Prop :=
  ∀ (md : Nat) (a : FSArr) (r0 r1 c0 c1 : Nat) (value : Block), WF a → r0 ≤ r1 → c0 ≤ c1 → c1 ≤ a.numColumns →
    ¬ (value.isStr = true ∧ c1 - c0 > 1) →
    let res := a.setRegion md (.slice (some (r0 : Int)) (some (r1 : Int))) (.slice (some (c0 : Int)) (some (c1 : Int))) value
    let fits := value.items.length = r1 - r0 ∧ ∀ it ∈ value.items, it.cells.length ≤ c1 - c0
    (fits → res.2 = .ok () ∧
      (∀ r c, grid res.1 r c = C04_paint (grid a) r0 r1 c0 c1 (value.items.map Operand.cells) r c) ∧
      res.1.rows.length = max a.rows.length r1 ∧ WF res.1) ∧
    (¬ fits → r0 < r1 → c0 < c1 → (∃ e, res.2 = .error e) ∧ ∀ r c, grid res.1 r c = grid a r c)

/-- `FSArray(num_rows, num_columns, *args)`: `num_rows` rows, all blank, none wider than the array. -/
theorem C04_init (n w : Nat) (atts : Atts) :
    WF (FSArr.init n w atts) ∧ (FSArr.init n w atts).rows.length = n ∧ (FSArr.init n w atts).numColumns = w ∧
      ∀ r c, grid (FSArr.init n w atts) r c = blankCell := by
  refine ⟨?_, by simp [FSArr.init], rfl, ?_⟩
  · intro f hf
    simp only [FSArr.init, List.mem_replicate] at hf
    rw [hf.2]; simp [blankRow]
  · intro r c
    rw [grid_eq_shown, FSArr.init, List.map_replicate, cells_blankRow, ← List.nil_append (List.replicate n []),
      shown_append_empty]
    rfl

/-- D19 at a concrete point: blank 1x3 array, `a[0:1, 0:1] = ['xz']` succeeds and cell (0,1), outside the region,
    changes from blank to 'z'. (`4300`: `md` at CPython's default digit limit, `Generated.intMaxStrDigits`.) -/
theorem C04_D19_cell :
    ((FSArr.init 1 3 {}).setRegion 4300 (.slice (some 0) (some 1)) (.slice (some 0) (some 1))
        ⟨false, [.str ['x', 'z']]⟩).2 = .ok () ∧
    grid ((FSArr.init 1 3 {}).setRegion 4300 (.slice (some 0) (some 1)) (.slice (some 0) (some 1))
        ⟨false, [.str ['x', 'z']]⟩).1 0 1 = ('z', {}) ∧
    grid (FSArr.init 1 3 {}) 0 1 = blankCell := by decide +kernel

theorem C04_D19_witness : ¬ C04_full_statement := by
  intro h
  -- 'xz' does not fit one column: the statement's second half asks for an error
  obtain ⟨⟨e, he⟩, _⟩ := (h 4300 (FSArr.init 1 3 {}) 0 1 0 1 ⟨false, [.str ['x', 'z']]⟩ (C04_init 1 3 {}).1 (by decide)
    (by decide) (by decide) (by decide)).2 (by decide) (by decide) (by decide)
  simp only [Int.natCast_zero, Int.natCast_one] at he
  rw [C04_D19_cell.1] at he
  cases he

/-- D27 at a concrete point: blank 1x12 array, `a[0:1, 0:12] = ['\x1b[31mxy\x1b[39m']` - a plain str of twelve
    characters for a region of twelve columns - succeeds and cell (0,0) shows a RED 'x', not the str's first character
    (ESC) unformatted: `setslice_with_length` measures the raw str, `splice` parses it. -/
theorem C04_D27_cell :
    ((FSArr.init 1 12 {}).setRegion 4300 (.slice (some ((0 : Nat) : Int)) (some ((1 : Nat) : Int)))
        (.slice (some ((0 : Nat) : Int)) (some ((12 : Nat) : Int)))
        ⟨false, [.str [ESC, '[', '3', '1', 'm', 'x', 'y', ESC, '[', '3', '9', 'm']]⟩).2 = .ok () ∧
    grid ((FSArr.init 1 12 {}).setRegion 4300 (.slice (some ((0 : Nat) : Int)) (some ((1 : Nat) : Int)))
        (.slice (some ((0 : Nat) : Int)) (some ((12 : Nat) : Int)))
        ⟨false, [.str [ESC, '[', '3', '1', 'm', 'x', 'y', ESC, '[', '3', '9', 'm']]⟩).1 0 0
      = ('x', { fg := some 1 }) := by decide +kernel

theorem C04_D27_witness : ¬ C04_full_statement := by
  intro h
  -- the str fits its twelve columns: the statement's first half asks for its characters, unformatted
  have h2 := ((h 4300 (FSArr.init 1 12 {}) 0 1 0 12
    ⟨false, [.str [ESC, '[', '3', '1', 'm', 'x', 'y', ESC, '[', '3', '9', 'm']]⟩ (C04_init 1 12 {}).1 (by decide)
    (by decide) (by decide) (by decide)).1 (by decide)).2.1 0 0
  rw [C04_D27_cell.2] at h2
  revert h2
  decide +kernel

/-- Regions without cells are outside the statement: the code returns (after extending the rows) before looking at
    the value; no error is required there, only that no cell changes. -/
theorem C04_empty_region_noop (md : Nat) (a : FSArr) (r0 r1 c0 c1 : Nat) (value : Block) (h : r0 = r1 ∨ c0 = c1) :
    (a.setRegion md (.slice (some (r0 : Int)) (some (r1 : Int))) (.slice (some (c0 : Int)) (some (c1 : Int))) value).2
        = .ok () ∧
      ∀ r c, grid (a.setRegion md (.slice (some (r0 : Int)) (some (r1 : Int)))
        (.slice (some (c0 : Int)) (some (c1 : Int))) value).1 r c = grid a r c := by
  rw [setRegion_of_norm md a _ _ value _ _ (normalizeSlice_nat _ r0 r1) (normalizeSlice_nat _ c0 c1),
    if_pos (by simp only [slicesize]; omega)]
  exact ⟨rfl, grid_extended a r1⟩

/-- A region reaching past the right edge (`c1 > width`): a row that stays inside is composited, a row that would
    reach past the width is rejected; a zero-width array takes only empty rows. -/
example :
    ((FSArr.init 1 4 {}).setRegion 4300 (.slice (some 0) (some 1)) (.slice (some 2) (some 8)) ⟨false, [.str ['X', 'Y']]⟩).2 = .ok () ∧
    ((FSArr.init 1 4 {}).setRegion 4300 (.slice (some 0) (some 1)) (.slice (some 2) (some 8)) ⟨false, [.str ['X', 'Y']]⟩).1.rows.map cells
      = [[(' ', {}), (' ', {}), ('X', {}), ('Y', {})]] ∧
    ((FSArr.init 1 4 {}).setRegion 4300 (.slice (some 0) (some 1)) (.slice (some 4) (some 6)) ⟨false, [.str ['x', 'y']]⟩).2
      = .error .valueError ∧
    ((FSArr.init 1 0 {}).setRegion 4300 (.slice (some 0) (some 1)) (.slice (some 0) (some 3)) ⟨false, [.str ['a', 'b', 'c']]⟩).2
      = .error .valueError ∧
    ((FSArr.init 1 0 {}).setRegion 4300 (.slice (some 0) (some 1)) (.slice (some 0) (some 3)) ⟨false, [.str []]⟩).2 = .ok () := by
  decide +kernel

/-- Non-vacuity of `C04_assign_partial` / `C04_reject_partial`: a 2x3 array whose first row is 'abc', then
    `a[0:2, 1:2] = [bold 'X', '']`: both rows fit; and `a[0:1, 0:1] = ['xz']` on that array is rejected. -/
example :
    let a : FSArr := ⟨[[⟨['a', 'b', 'c'], {}⟩], blankRow {}], 3, {}⟩
    (a.setRegion 4300 (.slice (some 0) (some 2)) (.slice (some 1) (some 2))
        ⟨false, [.fmt [⟨['X'], { bold := some true }⟩], .str []]⟩).2 = .ok () ∧
    (a.setRegion 4300 (.slice (some 0) (some 2)) (.slice (some 1) (some 2))
        ⟨false, [.fmt [⟨['X'], { bold := some true }⟩], .str []]⟩).1.rows.map cells
      = [[('a', {}), ('X', { bold := some true }), ('c', {})], [(' ', {})]] ∧
    (a.setRegion 4300 (.slice (some 0) (some 1)) (.slice (some 0) (some 1))
        ⟨false, [.str ['x', 'z']]⟩).2 = .error .assertionError := by decide +kernel

/-- Reading a region back: `a[r0:r1, c0:c1]` is one FmtStr per stored row `r0 ≤ r < min r1 height` with that row's
    stored cells in columns `c0 ≤ c < c1` (rows shorter than `c1` are not padded). -/
theorem C04_read (a : FSArr) (r0 r1 c0 c1 : Nat) :
    ∃ l, a.getitem2 (.slice (some (r0 : Int)) (some (r1 : Int))) (.slice (some (c0 : Int)) (some (c1 : Int))) = .ok l ∧
      l.map cells = ((a.rows.take r1).drop r0).map fun f => ((cells f).take c1).drop c0 := by
  refine ⟨(listSlice a.rows (r0, r1)).map (fun fs => getslice fs c0 c1),
    by simp only [FSArr.getitem2, normalizeSlice_nat, bind, Except.bind, pure, Except.pure], ?_⟩
  simp only [listSlice, List.map_map, Function.comp_def, getslice_cells]

/-- The same on cells: cell `j` of returned row `i` is what the grid shows at `(r0+i, c0+j)`. -/
theorem C04_read_cells (a : FSArr) (r0 r1 c0 c1 : Nat) :
    ∃ l, a.getitem2 (.slice (some (r0 : Int)) (some (r1 : Int))) (.slice (some (c0 : Int)) (some (c1 : Int))) = .ok l ∧
      l.length = min r1 a.rows.length - r0 ∧
      ∀ i j, i < l.length → j < c1 - c0 →
        padCell ((l.map cells)[i]?.getD []) j = grid a (r0 + i) (c0 + j) := by
  obtain ⟨l, h1, h2⟩ := C04_read a r0 r1 c0 c1
  have hlen : l.length = min r1 a.rows.length - r0 := by
    rw [← List.length_map (f := cells), h2, List.length_map, List.length_drop, List.length_take]
  refine ⟨l, h1, hlen, ?_⟩
  intro i j hi hj
  have hin : r0 + i < r1 ∧ r0 + i < a.rows.length := by omega
  rw [h2]
  simp only [List.getElem?_map, List.getElem?_drop, List.getElem?_take, grid, padCell, rowCell]
  rw [if_pos hin.1, List.getElem?_eq_getElem hin.2]
  simp only [Option.map_some, Option.getD_some]
  rw [List.getElem?_drop, List.getElem?_take, if_pos (Nat.add_lt_of_lt_sub' hj)]

/-- Reading a row: `a[i]` for `0 ≤ i < height` is the stored row; otherwise IndexError. -/
theorem C04_read_row (a : FSArr) (i : Nat) :
    a.getitem1 (.int (i : Int)) =
      match a.rows[i]? with
      | some f => .ok (.row f)
      | none => .error .indexError := by
  unfold FSArr.getitem1
  simp only []
  have h0 : ¬ ((i : Int) < 0) := by omega
  rw [if_neg h0]
  by_cases h : i < a.rows.length
  · have : ¬ ((i : Int) < 0 ∨ (i : Int) ≥ (a.rows.length : Int)) := by omega
    rw [if_neg this]
    simp [List.getElem?_eq_getElem h]
  · have : ((i : Int) < 0 ∨ (i : Int) ≥ (a.rows.length : Int)) := by omega
    rw [if_pos this, List.getElem?_eq_none (by omega)]

/-- Reading rows: `a[r0:r1]` is the list of stored rows `r0 ≤ r < min r1 height`. -/
theorem C04_read_rows (a : FSArr) (r0 r1 : Nat) :
    a.getitem1 (.slice (some (r0 : Int)) (some (r1 : Int))) = .ok (.rows ((a.rows.take r1).drop r0)) := by
  simp only [FSArr.getitem1, normalizeSlice_nat, bind, Except.bind, pure, Except.pure, listSlice]

/-- `fsarray(strings, width, *args)` when every item fits and no plain-str item contains `ESC [` (complement of
    finding D27): an array of `len(strings)` rows and `width` columns whose rows show exactly the items - a FmtStr
    as it is, a plain str with the formatting the extra arguments denote (`itemCells`). -/
theorem C04_fsarray_partial (md : Nat) (strings : List Operand) (w : Nat) (atts : Atts)
    (hfit : ∀ s ∈ strings, s.rawLen ≤ w) (hesc : ∀ s ∈ strings, s.EscFree) :
    ∃ arr, fsarray md strings (some w) atts = .ok arr ∧ arr.numColumns = w ∧
      arr.rows.map cells = strings.map (itemCells atts) ∧ WF arr := by
  obtain ⟨rows, h1, h2⟩ := fsarrayRows_ok md w atts strings (fun s hs => NoEsc_of_EscFree s (hesc s hs)) hfit
  have hany : strings.any (fun s => decide (s.rawLen > w)) = false := by
    simp only [List.any_eq_false, decide_eq_true_eq]
    exact fun s hs => Nat.not_lt_of_le (hfit s hs)
  refine ⟨{ FSArr.init strings.length w atts with rows := rows }, ?_, rfl, h2, ?_⟩
  · simp [fsarray, hany, FSArr.init, h1]
  · intro f hf
    obtain ⟨s, hs, hsc⟩ := List.mem_map.mp (h2 ▸ List.mem_map_of_mem hf)
    show len f ≤ w
    rw [← cells_length, ← hsc, itemCells_length]; exact hfit s hs

/-- `fsarray(strings, width)` with an item longer than `width` raises ValueError (for a str: its raw length). -/
theorem C04_fsarray_reject (md : Nat) (strings : List Operand) (w : Nat) (atts : Atts) (s : Operand)
    (hs : s ∈ strings) (hlong : s.rawLen > w) : fsarray md strings (some w) atts = .error .valueError := by
  have hany : strings.any (fun s => decide (s.rawLen > w)) = true := by
    simp only [List.any_eq_true, decide_eq_true_eq]; exact ⟨s, hs, hlong⟩
  simp [fsarray, hany]

/-- `fsarray(strings)` without a width: the width is the longest item. -/
theorem C04_fsarray_auto_partial (md : Nat) (strings : List Operand) (atts : Atts) (hesc : ∀ s ∈ strings, s.EscFree) :
    ∃ arr, fsarray md strings none atts = .ok arr ∧ arr.rows.map cells = strings.map (itemCells atts) ∧ WF arr ∧
      (∀ s ∈ strings, s.rawLen ≤ arr.numColumns) ∧
      (strings ≠ [] → ∃ s ∈ strings, s.rawLen = arr.numColumns) ∧ (strings = [] → arr.numColumns = 0) := by
  have hfold : (strings.map Operand.rawLen).foldl max 0 = ((strings.map Operand.rawLen).max?).getD 0 := by
    rw [List.foldl_max, Nat.zero_max]
  have hfit : ∀ s ∈ strings, s.rawLen ≤ (strings.map Operand.rawLen).foldl max 0 :=
    fun s hs => by rw [hfold]; exact List.le_max?_getD_of_mem (List.mem_map_of_mem hs)
  obtain ⟨arr, h1, h2, h3, h4⟩ := C04_fsarray_partial md strings _ atts hfit hesc
  have hany : strings.any (fun s => decide (s.rawLen > (strings.map Operand.rawLen).foldl max 0)) = false := by
    simp only [List.any_eq_false, decide_eq_true_eq]
    exact fun s hs => Nat.not_lt_of_le (hfit s hs)
  refine ⟨arr, ?_, h3, h4, by rw [h2]; exact hfit, ?_, ?_⟩
  · simp only [fsarray, hany] at h1 ⊢
    exact h1
  · intro hne
    rw [h2, hfold]
    cases hm : (strings.map Operand.rawLen).max? with
    | none => exact absurd (List.map_eq_nil_iff.mp (List.max?_eq_none_iff.mp hm)) hne
    | some m =>
      obtain ⟨s, hs, hsl⟩ := List.mem_map.mp (List.max?_mem hm)
      exact ⟨s, hs, hsl⟩
  · intro he; rw [h2, he]; rfl

/-- D27 for `fsarray`: `fsarray(['\x1b[31mxy\x1b[39m'])` is 12 columns wide (the raw length of the str) and its row
    shows two RED cells - not the str's twelve characters, unformatted. -/
theorem C04_D27_fsarray :
    ((fsarray 4300 [.str [ESC, '[', '3', '1', 'm', 'x', 'y', ESC, '[', '3', '9', 'm']] none {}).toOption.map
        fun a => (a.numColumns, a.rows.map cells))
      = some (12, [[('x', { fg := some 1 }), ('y', { fg := some 1 })]]) := by decide +kernel

/-- Int subscripts: `a[r, c] = value` (`0 ≤ r`, `0 ≤ c < width`) is the assignment to the one-cell region
    `a[r:r+1, c:c+1]`, so the slice theorems apply. `r < sys.maxsize` is `normalize_slice(sys.maxsize, r)`'s range
    check. -/
theorem C04_int_subscript (md : Nat) (a : FSArr) (r c : Nat) (value : Block) (hr : r < maxsize)
    (hc : c < a.numColumns) :
    a.setRegion md (.int (r : Int)) (.int (c : Int)) value =
      a.setRegion md (.slice (some (r : Int)) (some ((r + 1 : Nat) : Int)))
        (.slice (some (c : Int)) (some ((c + 1 : Nat) : Int))) value := by
  unfold FSArr.setRegion
  rw [normalizeSlice_int_of_lt _ _ hr, normalizeSlice_int_of_lt _ _ hc, normalizeSlice_nat, normalizeSlice_nat]

/-- `a[r, c] = value` with a column outside the array raises IndexError and changes no cell. -/
theorem C04_int_col_out_of_range (md : Nat) (a : FSArr) (r c : Nat) (value : Block) (hr : r < maxsize)
    (hc : a.numColumns ≤ c) :
    (a.setRegion md (.int (r : Int)) (.int (c : Int)) value).2 = .error .indexError ∧
      ∀ r' c', grid (a.setRegion md (.int (r : Int)) (.int (c : Int)) value).1 r' c' = grid a r' c' := by
  have h : (a.setRegion md (.int (r : Int)) (.int (c : Int)) value).2 = .error .indexError := by
    unfold FSArr.setRegion
    rw [normalizeSlice_int_of_lt _ _ hr]
    have : normalizeSlice a.numColumns (.int (c : Int)) = .error .indexError := by
      rw [normalizeSlice_int, if_neg (by omega), if_neg (by omega)]
    simp only [this]
  exact ⟨h, C04_error_unchanged md a _ _ value _ h⟩

/-- `a[r, c] = value` with one item of at most one character (e.g. `a[r, c] = 'x'`): cell (r, c) shows it (blank for
    an empty item), every other cell is unchanged, the array has `max height (r+1)` rows. -/
theorem C04_assign_int_partial (md : Nat) (a : FSArr) (r c : Nat) (value : Block) (it : Operand)
    (hw : WF a) (hr : r < maxsize) (hc : c < a.numColumns) (hitems : value.items = [it]) (hfit : it.rawLen ≤ 1)
    (hesc : it.EscFree) :
    ∃ a', a.setRegion md (.int (r : Int)) (.int (c : Int)) value = (a', .ok ()) ∧
      (∀ r' c', grid a' r' c' = C04_paint (grid a) r (r + 1) c (c + 1) [it.cells] r' c') ∧
      a'.rows.length = max a.rows.length (r + 1) ∧ WF a' ∧ a'.numColumns = a.numColumns := by
  rw [C04_int_subscript md a r c value hr hc]
  have := C04_assign_partial md a r (r + 1) c (c + 1) value hw (by omega) (by omega)
    (by rw [hitems]; intro x hx; simp at hx; subst hx; omega)
    (by rw [hitems]; simp) (by rw [hitems]; simpa using hfit) (by omega) (by rw [hitems]; simpa using hesc)
  rw [hitems] at this
  simpa only [List.map_cons, List.map_nil] using this

/-- `C04_reject_partial` at the one-cell region of `a[r, c] = value`. -/
theorem C04_reject_int_partial (md : Nat) (a : FSArr) (r c : Nat) (value : Block)
    (hr : r < maxsize) (hc : c < a.numColumns)
    (hbad : value.items.length ≠ 1 ∨
      ∃ (it : Operand), value.items[0]? = some it ∧ it.rawLen > 1 ∧ it.EscFree ∧
        (rowLen a r > c + 1 ∨ c + it.rawLen > a.numColumns)) :
    ∃ e, (a.setRegion md (.int (r : Int)) (.int (c : Int)) value).2 = .error e ∧
      ∀ r' c', grid (a.setRegion md (.int (r : Int)) (.int (c : Int)) value).1 r' c' = grid a r' c' := by
  rw [C04_int_subscript md a r c value hr hc]
  apply C04_reject_partial md a r (r + 1) c (c + 1) value (by omega) (by omega)
  rcases hbad with h | ⟨it, h1, h2, h3, h4⟩
  · left; omega
  · right; exact ⟨0, it, h1, by omega, h3, by simpa using h4⟩

/-- One region assignment `a[r0:r1, c0:c1] = value` of a history. -/
structure C04_Asg where
  r0 : Nat
  r1 : Nat
  c0 : Nat
  c1 : Nat
  value : Block

/-- Inside the statement's domain for an array of width `W`. -/
def C04_Asg.valid (W : Nat) (s : C04_Asg) : Prop :=
  s.r0 ≤ s.r1 ∧ s.c0 ≤ s.c1 ∧ s.c1 ≤ W ∧ ¬ (s.value.isStr = true ∧ s.c1 - s.c0 > 1)

def C04_Asg.fits (s : C04_Asg) : Bool :=
  decide (s.value.items.length = s.r1 - s.r0) && s.value.items.all fun it => decide (it.rawLen ≤ s.c1 - s.c0)

/-- The hypotheses of `C04_reject_partial` for the array `a` the assignment meets: the block does not fit, the region
    has cells, outside D19's footprint. A predicate on the INPUT (block, region, stored lengths of the rows met), not on
    the outcome. -/
def C04_Asg.rejectable (a : FSArr) (s : C04_Asg) : Prop :=
  s.r0 < s.r1 ∧ s.c0 < s.c1 ∧
    (s.value.items.length ≠ s.r1 - s.r0 ∨
      ∃ (i : Nat) (it : Operand), s.value.items[i]? = some it ∧ it.rawLen > s.c1 - s.c0 ∧ it.EscFree ∧
        (rowLen a (s.r0 + i) > s.c1 ∨ s.c0 + it.rawLen > a.numColumns))

def C04_call (md : Nat) (a : FSArr) (s : C04_Asg) : FSArr × Except PyErr Unit :=
  a.setRegion md (.slice (some (s.r0 : Int)) (some (s.r1 : Int))) (.slice (some (s.c0 : Int)) (some (s.c1 : Int))) s.value

/-- The array after a history (exceptions are caught by the caller; the array lives on). -/
def C04_run (md : Nat) (a : FSArr) (hist : List C04_Asg) : FSArr := hist.foldl (fun a s => (C04_call md a s).1) a

/-- The picture the property prescribes after a history: fitting blocks are painted, the others change nothing. -/
def C04_specGrid (g : Nat → Nat → Cell) : List C04_Asg → Nat → Nat → Cell
  | [] => g
  | s :: rest =>
    C04_specGrid (if s.fits then C04_paint g s.r0 s.r1 s.c0 s.c1 (s.value.items.map Operand.cells) else g) rest

/-- The height the property prescribes: every assignment (accepted or rejected) reaches down to its `r1`. -/
def C04_specHeight (h : Nat) : List C04_Asg → Nat
  | [] => h
  | s :: rest => C04_specHeight (max h s.r1) rest

/-- Histories: after any sequence of region assignments in the statement's domain, each of which EITHER fits its
    region (with ESC-free str rows), OR has a region without cells, OR is `rejectable` - predicates on the inputs and
    the array met, none on the call's outcome - the array shows the prescribed picture and height, no row is wider
    than the array and the width is unchanged. (Steps in the footprint of D19 or D27 satisfy none of the three.) -/
theorem C04_history (md : Nat) (a : FSArr) (hist : List C04_Asg) (hw : WF a)
    (hv : ∀ s ∈ hist, s.valid a.numColumns)
    (hs : ∀ (pre post : List C04_Asg) (s : C04_Asg), hist = pre ++ s :: post →
      (s.fits = true ∧ ∀ it ∈ s.value.items, it.EscFree) ∨ (s.r0 = s.r1 ∨ s.c0 = s.c1) ∨
        s.rejectable (C04_run md a pre)) :
    (∀ r c, grid (C04_run md a hist) r c = C04_specGrid (grid a) hist r c) ∧
    (C04_run md a hist).rows.length = C04_specHeight a.rows.length hist ∧
    WF (C04_run md a hist) ∧ (C04_run md a hist).numColumns = a.numColumns := by
  induction hist generalizing a with
  | nil => exact ⟨fun _ _ => rfl, rfl, hw, rfl⟩
  | cons s rest ih =>
    obtain ⟨hr, hc, hcW, hstr⟩ := hv s (by simp)
    have hinv : WF (C04_call md a s).1 ∧ (C04_call md a s).1.numColumns = a.numColumns :=
      C04_width_invariant md a _ _ s.value hw
    have hheight : (C04_call md a s).1.rows.length = max a.rows.length s.r1 := C04_height md a s.r0 s.r1 _ s.value
    have hgrid : grid (C04_call md a s).1 =
        (if s.fits then C04_paint (grid a) s.r0 s.r1 s.c0 s.c1 (s.value.items.map Operand.cells)
         else grid a) := by
      funext r c
      rcases hs [] rest s rfl with ⟨hf, hesc⟩ | hempty | ⟨h1, h2, hbad⟩
      · rw [if_pos hf]
        simp only [C04_Asg.fits, Bool.and_eq_true, decide_eq_true_eq, List.all_eq_true] at hf
        obtain ⟨a', h1, h2, _⟩ := C04_assign_partial md a s.r0 s.r1 s.c0 s.c1 s.value hw hr hc
          (fun it hit => Nat.le_trans (Nat.add_le_of_le_sub' hc (hf.2 it hit)) hcW) hf.1 hf.2 hstr hesc
        simp only [C04_call, h1, h2]
      · -- a region without cells: nothing changes, and painting it changes nothing
        rw [show grid (C04_call md a s).1 r c = grid a r c from
          (C04_empty_region_noop md a _ _ _ _ s.value hempty).2 r c]
        split
        · rw [C04_paint, if_neg (by omega)]
        · rfl
      · -- a rejectable block does not fit
        have hnf : ¬ s.fits = true := by
          simp only [C04_Asg.fits, Bool.and_eq_true, decide_eq_true_eq, List.all_eq_true]
          rintro ⟨hcount, hall⟩
          rcases hbad with hbad | ⟨i, it, hit, hlen, _, _⟩
          · exact hbad hcount
          · exact Nat.not_le_of_lt hlen (hall it (List.mem_of_getElem? hit))
        rw [if_neg hnf]
        obtain ⟨e, _, hun⟩ := C04_reject_partial md a s.r0 s.r1 s.c0 s.c1 s.value h1 h2 hbad
        exact hun r c
    obtain ⟨g1, g2, g3, g4⟩ := ih (C04_call md a s).1 hinv.1
      (fun t ht => by
        have := hv t (by simp [ht])
        simpa only [hinv.2] using this)
      (fun pre post t h => by
        have := hs (s :: pre) post t (by simp [h])
        simpa only [C04_run, List.foldl_cons] using this)
    rw [show C04_run md a (s :: rest) = C04_run md (C04_call md a s).1 rest from rfl]
    refine ⟨fun r c => ?_, ?_, g3, g4.trans hinv.2⟩
    · rw [g1 r c, hgrid]; rfl
    · rw [g2, hheight]; rfl

/-- Non-vacuity of `C04_history`: a fitting assignment followed by a rejectable one (and it is rejected) on a 2x3
    array. -/
example :
    let s1 : C04_Asg := ⟨0, 2, 0, 3, ⟨false, [.str ['a', 'b', 'c'], .str ['d']]⟩⟩
    let s2 : C04_Asg := ⟨0, 1, 0, 1, ⟨false, [.str ['x', 'z']]⟩⟩
    s1.fits = true ∧ s2.fits = false ∧
    (C04_call 4300 (C04_run 4300 (FSArr.init 2 3 {}) [s1]) s2).2 = .error .assertionError ∧
    (C04_run 4300 (FSArr.init 2 3 {}) [s1, s2]).rows.map cells = [[('a', {}), ('b', {}), ('c', {})], [('d', {})]] := by
  decide +kernel
example : (⟨0, 1, 0, 1, ⟨false, [.str ['x', 'z']]⟩⟩ : C04_Asg).rejectable
    (C04_run 4300 (FSArr.init 2 3 {}) [⟨0, 2, 0, 3, ⟨false, [.str ['a', 'b', 'c'], .str ['d']]⟩⟩]) :=
  ⟨by decide, by decide, Or.inr ⟨0, .str ['x', 'z'], rfl, by decide,
    (by show ¬ [ESC, '['] <:+: ['x', 'z']; decide), Or.inl (by decide +kernel)⟩⟩

end Curtsies
