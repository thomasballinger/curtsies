/-
  C10 - width and width_aware_slice measure and cut by terminal columns.

  For EVERY Unicode environment `u` (the library's `wcwidth`), under `u.sane (text f)`: every character has width
  0, 1 or 2, what the library's own guard establishes (`UEnv.sane`; otherwise the code raises ValueError, `C10_guard`).

  The slicing clause is the relation `SliceRel u strict a b` on the characters of `f` with their column intervals
  [col, col+w): a character wholly inside [a, b) is kept with its formatting; any other of non-zero width is replaced
  by as many spaces (with ITS formatting) as it has columns in the range; a zero-width character is never invented,
  moved or restyled and can only be kept at a column in [a, b]. `strict = some kl` adds the cluster rule without
  latitude (`keepZ`; so also kept after the space of a wide base cut by the LEFT edge, not by the right): it is what
  the code does on a string held in ONE run (`D30Free_single`) and is FALSE for the code on other run layouts -
  finding D30 (`C10_slice_full_statement`, four witnesses; `C10_slice_partial` proves it on the complement `D30Free`
  of the footprint). `C10_slice_width` and the column view `C10_cols` (DESIGN section 3) come from the rule-free
  relation (`strict = none`, `C10_slice_columns_partial`), which holds for every run layout.
-/
import Curtsies.Proofs.Width
import Curtsies.Proofs.Slice
namespace Curtsies

/-- how many of the columns `[col, col + w)` lie in `[a, b)` -/
def colOverlap (a b col w : Int) : Nat := (min (col + w) b - max col a).toNat

/-- Must a zero-width character at column `col` be kept? It goes with its base (the nearest preceding character
    of non-zero width, which ends at `col`): kept iff the LAST column of the base is requested, `a < col ≤ b`;
    without a base (`col = 0`) iff `kl` (the whole string is requested, `keepLead`). -/
def keepZ (kl : Bool) (a b col : Int) : Prop := (a < col ∧ col ≤ b) ∨ (col = 0 ∧ kl = true)

/-- `SliceRel u strict a b col l out`: `out` is what the columns `[a, b)` show of the cells `l` laid out from column
    `col` on, a constructor per cell. `strict = none` lets a zero-width cell at a column in `[a, b]` stay or go,
    `strict = some kl` has `keepZ kl` decide. -/
inductive SliceRel (u : UEnv) (strict : Option Bool) (a b : Int) : Int → List Cell → List Cell → Prop
  | nil (col : Int) : SliceRel u strict a b col [] []
  | zdrop {col : Int} {x : Cell} {rest out : List Cell} :
      u.wcwidth x.1 = 0 → (∀ kl, strict = some kl → ¬ keepZ kl a b col) →
      SliceRel u strict a b col rest out → SliceRel u strict a b col (x :: rest) out
  | zkeep {col : Int} {x : Cell} {rest out : List Cell} :
      u.wcwidth x.1 = 0 → a ≤ col → col ≤ b → (∀ kl, strict = some kl → keepZ kl a b col) →
      SliceRel u strict a b col rest out → SliceRel u strict a b col (x :: rest) (x :: out)
  | inside {col : Int} {x : Cell} {rest out : List Cell} :
      0 < u.wcwidth x.1 → a ≤ col → col + u.wcwidth x.1 ≤ b →
      SliceRel u strict a b (col + u.wcwidth x.1) rest out → SliceRel u strict a b col (x :: rest) (x :: out)
  | cut {col : Int} {x : Cell} {rest out : List Cell} :
      0 < u.wcwidth x.1 → ¬ (a ≤ col ∧ col + u.wcwidth x.1 ≤ b) →
      SliceRel u strict a b (col + u.wcwidth x.1) rest out →
      SliceRel u strict a b col (x :: rest) (List.replicate (colOverlap a b col (u.wcwidth x.1)) (' ', x.2) ++ out)

variable {strict : Option Bool}

/-- right of column 0 only the base decides -/
theorem not_keepZ_pos {kl : Bool} {a b col : Int} (h : col ≤ a ∨ b < col) (h0 : 0 < col) : ¬ keepZ kl a b col := by
  rintro (⟨h1, h2⟩ | ⟨h1, _⟩) <;> omega

theorem colOverlap_empty {a b col w : Int} (h : min (col + w) b ≤ max col a) : colOverlap a b col w = 0 := by
  unfold colOverlap; omega

theorem colOverlap_zero {a b col : Int} : colOverlap a b col 0 = 0 :=
  colOverlap_empty (by omega)

theorem colOverlap_outside {a b col w : Int} (h : col + w ≤ a ∨ b ≤ col) : colOverlap a b col w = 0 :=
  colOverlap_empty (by omega)

/-- Left: the range as `FmtStr.width_aware_slice` passes it to the character loop of a run starting at column `col0`,
    `cs` columns into that run. -/
theorem colOverlap_shift {a b col0 cs w : Int} (hcs : 0 ≤ cs) :
    colOverlap (max 0 (a - col0)) (b - col0) cs w = colOverlap a b (col0 + cs) w := by
  -- at `cs ≥ 0` the clamp at 0 is idle; both ends of the overlap move by `col0`
  have hclamp : max cs (max 0 (a - col0)) = max cs (a - col0) := by rw [← Int.max_assoc, Int.max_eq_left hcs]
  have hlo : max (col0 + cs) a = max cs (a - col0) + col0 := by
    rw [← Int.max_add_right, Int.sub_add_cancel, Int.add_comm]
  have hhi : min (col0 + cs + w) b = min (cs + w) (b - col0) + col0 := by
    rw [← Int.min_add_right, Int.sub_add_cancel, Int.add_right_comm cs w, Int.add_comm cs]
  unfold colOverlap
  rw [hclamp, hlo, hhi, Int.add_sub_add_right]

/-- `h2`: the assertion of `interval_overlap` can only fail for an interval more than two columns wide. -/
theorem intervalOverlap_char {a w x y : Int} (h0 : 0 ≤ w) (h2 : w ≤ 2) :
    intervalOverlap a (a + w) x y = .ok (colOverlap x y a w : Nat) := by
  unfold intervalOverlap
  by_cases h1 : a + w ≤ x ∨ a ≥ y ∨ x = y
  · have he : colOverlap x y a w = 0 := by
      rcases h1 with h | h | rfl
      · exact colOverlap_outside (Or.inl h)
      · exact colOverlap_outside (Or.inr h)
      · exact colOverlap_empty (Int.le_trans (Int.min_le_right _ _) (Int.le_max_right _ _))
    rw [if_pos h1, he]; rfl
  · rw [if_neg h1]
    unfold colOverlap
    by_cases hxa : x ≤ a
    · rw [if_pos ⟨hxa, by omega⟩, Int.max_eq_left hxa, Int.toNat_of_nonneg (by omega)]
    · rw [if_neg (fun h => hxa h.1), if_pos (by omega), Int.min_eq_left (by omega), Int.max_eq_right (by omega),
        Int.toNat_of_nonneg (by omega)]

/-- `zdrop` and `cut` in one: a character not kept leaves the spaces of its overlap (none if it has no columns). -/
theorem SliceRel.spaces {u : UEnv} {a b col : Int} {x : Cell} {rest out : List Cell}
    (hw : 0 ≤ u.wcwidth x.1) (hn : 0 < u.wcwidth x.1 → ¬ (a ≤ col ∧ col + u.wcwidth x.1 ≤ b))
    (hz : u.wcwidth x.1 = 0 → ∀ kl, strict = some kl → ¬ keepZ kl a b col)
    (h : SliceRel u strict a b (col + u.wcwidth x.1) rest out) :
    SliceRel u strict a b col (x :: rest)
      (List.replicate (colOverlap a b col (u.wcwidth x.1)) (' ', x.2) ++ out) := by
  by_cases h0 : u.wcwidth x.1 = 0
  · rw [h0, Int.add_zero] at h
    rw [h0, colOverlap_zero]
    exact .zdrop h0 (hz h0) h
  · exact .cut (by omega) (hn (by omega)) h

/-- The character loop on a run that starts at column `col0`, `cs` (the loop's `char_start`) columns into it. Only a
    run not taken whole comes here, and the loop never keeps the zero-width characters a run begins with: `hlz` says
    the rule does not either (what `D30Free` secures). -/
private theorem wasLoop_rel (u : UEnv) (atts : Atts) (a b col0 : Int) (s : Text) (cs : Int)
    (hs : u.sane s) (hcol0 : 0 ≤ col0) (hcs : 0 ≤ cs)
    (hlz : cs = 0 → ∀ ch, s.head? = some ch → u.wcwidth ch = 0 →
      ∀ kl, strict = some kl → ¬ keepZ kl a b col0) :
    ∃ r, wasLoop u (max 0 (a - col0)) (b - col0) cs s = .ok r ∧
      SliceRel u strict a b (col0 + cs) (s.map fun ch => (ch, atts)) (r.map fun ch => (ch, atts)) := by
  induction s generalizing cs with
  | nil => exact ⟨[], rfl, .nil _⟩
  | cons c rest ih =>
    have ⟨hw, hrest⟩ := UEnv.sane_cons_bounds hs
    -- still at the start of the run after `c` means `c` has no columns either
    obtain ⟨r, hr, hrel⟩ := ih (cs + u.wcwidth c) hrest (Int.add_nonneg hcs hw.1) (fun h0 _ _ _ => by
      have : cs = 0 ∧ u.wcwidth c = 0 := by omega
      exact hlz this.1 c rfl this.2)
    rw [← Int.add_assoc] at hrel
    -- the loop keeps a zero-width character only strictly right of the start column and up to the end column
    have hdrop : u.wcwidth c = 0 → cs ≤ max 0 (a - col0) ∨ b - col0 < cs →
        ∀ kl, strict = some kl → ¬ keepZ kl a b (col0 + cs) := by
      intro hz hout
      by_cases h0 : cs = 0
      · rw [h0, Int.add_zero]
        exact hlz h0 c rfl hz
      · exact fun _ _ => not_keepZ_pos (by omega) (by omega)
    -- the loop's test for keeping a character is the relation's
    have hin : cs ≥ max 0 (a - col0) ∧ cs + u.wcwidth c ≤ b - col0 ↔
        a ≤ col0 + cs ∧ col0 + cs + u.wcwidth c ≤ b := by omega
    unfold wasLoop
    by_cases h1 : cs = max 0 (a - col0) ∧ cs + u.wcwidth c = max 0 (a - col0)
    · have hz : u.wcwidth c = 0 := by omega
      rw [if_pos h1]
      rw [hz, Int.add_zero] at hrel
      exact ⟨r, hr, .zdrop hz (hdrop hz (Or.inl (Int.le_of_eq h1.1))) hrel⟩
    · rw [if_neg h1]
      by_cases h2 : cs ≥ max 0 (a - col0) ∧ cs + u.wcwidth c ≤ b - col0
      · rw [if_pos h2, hr]
        refine ⟨c :: r, rfl, ?_⟩
        have ⟨ha, hb⟩ := hin.mp h2
        by_cases hz : u.wcwidth c = 0
        · rw [hz, Int.add_zero] at hrel hb
          exact .zkeep hz ha hb (fun kl _ => Or.inl ⟨by omega, hb⟩) hrel
        · exact .inside (x := (c, atts)) (by show 0 < u.wcwidth c; omega) ha hb hrel
      · rw [if_neg h2, intervalOverlap_char hw.1 hw.2, hr]
        refine ⟨_, rfl, ?_⟩
        rw [Int.toNat_natCast, colOverlap_shift hcs, List.map_append, List.map_replicate]
        exact .spaces (x := (c, atts)) hw.1 (fun _ => mt hin.mpr h2)
          (fun (hz : u.wcwidth c = 0) => hdrop hz (by omega)) hrel

/-- `hlz` speaks of the first cell only: right of a character with columns the rule keeps what lies inside. -/
theorem SliceRel.all_inside {u : UEnv} {a b : Int} {l : List Cell} {col : Int}
    (hs : u.sane (l.map Prod.fst)) (h1 : a ≤ col) (h2 : col + cellsWidth u l ≤ b)
    (hlz : ∀ x, l.head? = some x → u.wcwidth x.1 = 0 → ∀ kl, strict = some kl → keepZ kl a b col) :
    SliceRel u strict a b col l l := by
  induction l generalizing col with
  | nil => exact .nil _
  | cons x rest ih =>
    have ⟨hw, hrest⟩ := UEnv.sane_cons_bounds hs
    rw [cellsWidth_cons, ← Int.add_assoc] at h2
    have hb : col + u.wcwidth x.1 ≤ b := Int.le_trans (Int.le_add_of_nonneg_right (colWidth_nonneg hrest)) h2
    by_cases hz : u.wcwidth x.1 = 0
    · have hk := hlz x rfl hz
      rw [hz, Int.add_zero] at h2 hb
      exact .zkeep hz h1 hb hk (ih hrest h1 h2 (fun _ _ _ => hk))
    · -- past a character with columns the next column is strictly right of `a`
      have hlt : a < col + u.wcwidth x.1 := by omega
      have hk : ∀ kl, strict = some kl → keepZ kl a b (col + u.wcwidth x.1) := fun _ _ => Or.inl ⟨hlt, hb⟩
      exact .inside (by omega) h1 hb (ih hrest (Int.le_of_lt hlt) h2 (fun _ _ _ => hk))

theorem SliceRel.all_outside {u : UEnv} {a b : Int} {l : List Cell} {col : Int}
    (hs : u.sane (l.map Prod.fst)) (h : col + cellsWidth u l ≤ a ∨ b ≤ col) (hcol : 0 ≤ col)
    (hlz : ∀ x, l.head? = some x → u.wcwidth x.1 = 0 → ∀ kl, strict = some kl → ¬ keepZ kl a b col) :
    SliceRel u strict a b col l [] := by
  induction l generalizing col with
  | nil => exact .nil _
  | cons x rest ih =>
    have ⟨hw, hrest⟩ := UEnv.sane_cons_bounds hs
    have hn : 0 ≤ cellsWidth u rest := colWidth_nonneg hrest
    rw [cellsWidth_cons] at h
    have htail : SliceRel u strict a b (col + u.wcwidth x.1) rest [] :=
      ih hrest (by omega) (Int.add_nonneg hcol hw.1) (fun _ _ _ => by
        by_cases hz : u.wcwidth x.1 = 0
        · rw [hz, Int.add_zero]
          exact hlz x rfl hz
        · exact fun _ _ => not_keepZ_pos (by omega) (by omega))
    have := SliceRel.spaces hw.1 (fun _ => by omega) (hlz x rfl) htail
    rwa [colOverlap_outside (by omega)] at this

theorem SliceRel.append {u : UEnv} {a b : Int} {l1 o1 : List Cell} {col : Int}
    (h1 : SliceRel u strict a b col l1 o1) {l2 o2 : List Cell}
    (h2 : SliceRel u strict a b (col + cellsWidth u l1) l2 o2) : SliceRel u strict a b col (l1 ++ l2) (o1 ++ o2) := by
  induction h1 with
  | nil col => simpa using h2
  | zdrop hz hb _ ih =>
    simp only [cellsWidth_cons, hz, Int.zero_add] at h2
    exact .zdrop hz hb (ih h2)
  | zkeep hz ha hb hk _ ih =>
    simp only [cellsWidth_cons, hz, Int.zero_add] at h2
    exact .zkeep hz ha hb hk (ih h2)
  | inside hw ha hb _ ih =>
    simp only [cellsWidth_cons, ← Int.add_assoc] at h2
    exact .inside hw ha hb (ih h2)
  | cut hw hn _ ih =>
    simp only [cellsWidth_cons, ← Int.add_assoc] at h2
    rw [List.append_assoc]
    exact .cut hw hn (ih h2)

/-- one-step inversion: a constructor per disjunct -/
theorem SliceRel.inv_cons {u : UEnv} {a b col : Int} {x : Cell} {rest out : List Cell}
    (h : SliceRel u strict a b col (x :: rest) out) :
    (u.wcwidth x.1 = 0 ∧ (∀ kl, strict = some kl → ¬ keepZ kl a b col) ∧
      SliceRel u strict a b col rest out) ∨
    (u.wcwidth x.1 = 0 ∧ (∀ kl, strict = some kl → keepZ kl a b col) ∧
      ∃ out', out = x :: out' ∧ SliceRel u strict a b col rest out') ∨
    (0 < u.wcwidth x.1 ∧ (a ≤ col ∧ col + u.wcwidth x.1 ≤ b) ∧
      ∃ out', out = x :: out' ∧ SliceRel u strict a b (col + u.wcwidth x.1) rest out') ∨
    (0 < u.wcwidth x.1 ∧ ¬ (a ≤ col ∧ col + u.wcwidth x.1 ≤ b) ∧
      ∃ out', out = List.replicate (colOverlap a b col (u.wcwidth x.1)) (' ', x.2) ++ out' ∧
        SliceRel u strict a b (col + u.wcwidth x.1) rest out') := by
  cases h with
  | zdrop hz hb hr => exact .inl ⟨hz, hb, hr⟩
  | zkeep hz _ _ hk hr => exact .inr (.inl ⟨hz, hk, _, rfl, hr⟩)
  | inside hw ha hb hr => exact .inr (.inr (.inl ⟨hw, ⟨ha, hb⟩, _, rfl, hr⟩))
  | cut hw hn hr => exact .inr (.inr (.inr ⟨hw, hn, _, rfl, hr⟩))

theorem SliceRel.inv_nil {u : UEnv} {a b col : Int} {out : List Cell}
    (h : SliceRel u strict a b col [] out) : out = [] := by
  cases h; rfl

theorem SliceRel.sane_out {u : UEnv} {a b col : Int} {l out : List Cell} (h : SliceRel u strict a b col l out)
    (hs : u.sane (l.map Prod.fst)) (hsp : u.wcwidth ' ' = 1) : u.sane (out.map Prod.fst) := by
  induction h with
  | nil col => exact hs
  | zdrop _ _ _ ih => exact ih (UEnv.sane_cons hs).2
  | zkeep _ _ _ _ _ ih | inside _ _ _ _ ih =>
    exact List.forall_mem_cons.mpr ⟨(UEnv.sane_cons hs).1, ih (UEnv.sane_cons hs).2⟩
  | cut _ _ _ ih =>
    rw [List.map_append, List.map_replicate]
    exact UEnv.sane_append.mpr
      ⟨fun c hc => by rw [(List.mem_replicate.mp hc).2]; exact Or.inr (Or.inl hsp), ih (UEnv.sane_cons hs).2⟩

/-- Does the code keep the leading zero-width characters of a run `cw` columns wide that starts at column `counter`?
    Only through the whole-run shortcut: the run lies inside [a, b] (a run without columns: strictly between them). -/
def codeKeeps (a b counter cw : Int) : Prop :=
  (a ≤ counter ∧ counter + cw ≤ b ∧ 0 < cw) ∨ (cw = 0 ∧ a < counter ∧ counter < b)

/-- The complement of the footprint of finding D30: on every run that begins with a zero-width character the code's
    decision about the leading zero-width characters (`codeKeeps`) is the specification's (`keepZ` at the column
    where the run starts); `counter` is the column at which the first run of the list starts.
    The four shapes it excludes (leading zero-width characters of a run starting at `counter`):
    S1 `a < counter < b < counter + cw` (right-cut run: dropped although inside), S2 `a < counter = b` (run starting at
    the slice end: dropped although their base is the last requested character), S3 `counter = a`, run wholly
    inside (kept although their base lies before the slice / is missing), S4 a run without columns at column 0
    when the whole string is requested (dropped). -/
def D30Free (u : UEnv) (kl : Bool) (a b : Int) : Int → FmtStr → Prop
  | _, [] => True
  | counter, c :: rest =>
    ((∀ ch, c.s.head? = some ch → u.wcwidth ch = 0) → c.s ≠ [] →
      (codeKeeps a b counter (colWidth u c.s) ↔ keepZ kl a b counter)) ∧
    D30Free u kl a b (counter + colWidth u c.s) rest

/-- the whole-run shortcut of `FmtStr.width_aware_slice` fires exactly when the run lies inside the range -/
theorem whole_run_iff {start stop counter cw : Int} :
    min (stop - counter) cw - max 0 (start - counter) = cw ↔ start ≤ counter ∧ counter + cw ≤ stop := by
  omega

/-- `codeKeeps` in the code's own terms: the run is looked at and taken whole -/
theorem codeKeeps_iff {a b counter cw : Int} (h : 0 ≤ cw) :
    codeKeeps a b counter cw ↔ (a < counter + cw ∧ b > counter) ∧ (a ≤ counter ∧ counter + cw ≤ b) := by
  unfold codeKeeps; omega

/-- The run loop from a run starting at column `counter`. `hstop`: `normalizeSlice` returns naturals for every index. -/
theorem wasChunkLoop_rel (u : UEnv) (start stop : Int) (f : FmtStr) (counter : Int)
    (hs : u.sane (text f)) (hc : 0 ≤ counter) (hstop : 0 ≤ stop)
    (hfree : ∀ kl, strict = some kl → D30Free u kl start stop counter f) :
    ∃ parts, wasChunkLoop u start stop counter f = .ok parts ∧
      SliceRel u strict start stop counter (cells f) (cells parts) := by
  induction f generalizing counter with
  | nil => exact ⟨[], rfl, .nil _⟩
  | cons c rest ih =>
    rw [text_cons] at hs
    have ⟨h1, h2⟩ := UEnv.sane_append.mp hs
    have hcw := colWidth_nonneg h1
    have hcs : u.sane (c.cells.map Prod.fst) := by rwa [Chunk.cells_fst]
    -- what D30Free says about this run, when it begins with a zero-width character
    have hrule : ∀ x, c.cells.head? = some x → u.wcwidth x.1 = 0 → ∀ kl, strict = some kl →
        (keepZ kl start stop counter ↔ (start < counter + colWidth u c.s ∧ stop > counter)
          ∧ (start ≤ counter ∧ counter + colWidth u c.s ≤ stop)) := by
      intro x hx hz kl hst
      rw [← codeKeeps_iff hcw]
      rw [Chunk.cells, List.head?_map] at hx
      refine ((hfree kl hst).1 (fun ch hch => ?_) (fun hnil => ?_)).symm
      · rw [hch] at hx; cases hx; exact hz
      · rw [hnil] at hx; cases hx
    have hpart : ∃ part, wasChunkPart u start stop counter c (colWidth u c.s) = .ok part ∧
        SliceRel u strict start stop counter c.cells (cells part) := by
      unfold wasChunkPart
      by_cases hcond : start < counter + colWidth u c.s ∧ stop > counter
      · rw [if_pos hcond]
        by_cases hwhole : min (stop - counter) (colWidth u c.s) - max 0 (start - counter) = colWidth u c.s
        · rw [if_pos hwhole]
          rw [whole_run_iff] at hwhole
          refine ⟨[c], rfl, ?_⟩
          rw [cells_cons, cells_nil, List.append_nil]
          exact SliceRel.all_inside hcs hwhole.1 ((cellsWidth_chunk u c).symm ▸ hwhole.2)
            (fun x hx hz kl hst => (hrule x hx hz kl hst).mpr ⟨hcond, hwhole⟩)
        · rw [if_neg hwhole]
          rw [whole_run_iff] at hwhole
          obtain ⟨r, hr, hrel⟩ := wasLoop_rel u c.atts start stop counter c.s 0 h1 hc (Int.le_refl 0)
            (fun _ ch hch hz kl hst hk =>
              hwhole ((hrule (ch, c.atts) (by simp [Chunk.cells, hch]) hz kl hst).mp hk).2)
          refine ⟨[⟨r, c.atts⟩], by simp [widthAwareSliceStr, hr, bind, Except.bind, pure, Except.pure], ?_⟩
          rw [Int.add_zero] at hrel
          rwa [cells_cons, cells_nil, List.append_nil]
      · rw [if_neg hcond]
        refine ⟨[], rfl, ?_⟩
        exact SliceRel.all_outside hcs (by rw [cellsWidth_chunk]; omega) hc
          (fun x hx hz kl hst hk => hcond ((hrule x hx hz kl hst).mp hk).1)
    obtain ⟨part, hp, hprel⟩ := hpart
    unfold wasChunkLoop
    simp only [chunkWidth_eq h1, hp, bind, Except.bind]
    by_cases hb : stop < counter + colWidth u c.s
    · -- `break`: the runs still to come start right of `stop`
      rw [if_pos hb]
      refine ⟨part, rfl, ?_⟩
      have hout : SliceRel u strict start stop (counter + cellsWidth u c.cells) (cells rest) [] := by
        rw [cellsWidth_chunk]
        have hright : ∀ kl, strict = some kl → ¬ keepZ kl start stop (counter + colWidth u c.s) :=
          fun _ _ => not_keepZ_pos (by omega) (by omega)
        exact SliceRel.all_outside (sane_cells_fst.mpr h2) (by omega) (by omega) (fun _ _ _ => hright)
      rw [cells_cons, ← List.append_nil (cells part)]
      exact SliceRel.append hprel hout
    · rw [if_neg hb]
      obtain ⟨parts, hps, hrel⟩ := ih (counter + colWidth u c.s) h2 (by omega) (fun kl hst => (hfree kl hst).2)
      rw [hps]
      refine ⟨part ++ parts, rfl, ?_⟩
      rw [cells_cons, cells_append]
      apply SliceRel.append hprel
      rwa [cellsWidth_chunk]

/-- `f.width` is the number of terminal columns `f` occupies. -/
theorem C10_width (u : UEnv) (f : FmtStr) (hs : u.sane (text f)) :
    fmtWidth u f = .ok (colWidth u (text f)) := fmtWidth_eq hs

/-- `f.width_at_offset(n)` is the width of the first `n` characters (every `n`, also past the end). -/
theorem C10_offset (u : UEnv) (f : FmtStr) (n : Nat) (hs : u.sane (text f)) :
    widthAtOffset u f n = .ok (colWidth u ((text f).take n)) := by
  have h := UEnv.sane_take hs n
  have := colWidth_nonneg h
  simp only [widthAtOffset, wcswidthN, wcswidth_eq h]
  rw [if_neg (by omega)]

/-- Outside the hypothesis nothing is computed: a character of negative width (cwcwidth's -1 for control characters)
    makes `width_aware_slice` raise ValueError, for every index. -/
theorem C10_guard (u : UEnv) (f : FmtStr) (idx : Index) (h : ∃ c ∈ text f, u.wcwidth c < 0) :
    widthAwareSlice u f idx = .error .valueError := by
  simp [widthAwareSlice, wcswidth, wcswidthLoop_neg u _ 0 h]

/-- Are leading zero-width characters without a base kept? Exactly when the whole string is requested
    (what the code does on a string held in one run: its whole-run shortcut). -/
def keepLead (u : UEnv) (f : FmtStr) (a b : Nat) : Bool :=
  decide (a = 0 ∧ colWidth u (text f) ≤ (b : Int) ∧ 0 < colWidth u (text f))

/-- Both clauses at once: without the rule (`strict = none`) for every `f`, under it for ANY `kl` that has `f` outside
    the footprint, not only `keepLead` (`D30Free` fixes `kl` wherever it plays a part). -/
theorem slice_rel (u : UEnv) (f : FmtStr) (a b : Nat) (hs : u.sane (text f))
    (hfree : ∀ kl, strict = some kl → D30Free u kl a b 0 f) :
    ∃ r, widthAwareSlice u f (.slice (some a) (some b) false) = .ok r ∧
      SliceRel u strict a b 0 (cells f) (cells r) := by
  obtain ⟨parts, hp, hrel⟩ := wasChunkLoop_rel u a b f 0 hs (Int.le_refl 0) (by omega) hfree
  refine ⟨if parts.isEmpty then emptyFmt else parts, ?_, ?_⟩
  · simp only [widthAwareSlice, if_neg (wcswidth_ne_neg_one hs), fmtWidth_eq hs, bind, Except.bind, normalizeSlice_nat, hp, pure,
      Except.pure]
  · -- `fmtstr("")` stands in for no parts: no cells either way
    split
    · next he => rwa [List.isEmpty_iff.mp he] at hrel
    · exact hrel

/-- FULL statement of the slicing clause, no latitude: every zero-width character goes with its base (`keepZ`; without
    a base `keepLead`). It is what the code does for a string held in one run and it is FALSE for multi-run strings -
    finding D30, `C10_D30_witness_*`. -/
def C10_slice_full_statement : Prop :=
  ∀ (u : UEnv) (f : FmtStr) (a b : Nat), u.sane (text f) →
    ∃ r, widthAwareSlice u f (.slice (some a) (some b) false) = .ok r ∧
      SliceRel u (some (keepLead u f a b)) a b 0 (cells f) (cells r)

/-- The full statement holds on the complement of the footprint of D30 (`D30Free`). -/
theorem C10_slice_partial (u : UEnv) (f : FmtStr) (a b : Nat) (hs : u.sane (text f))
    (hfree : D30Free u (keepLead u f a b) a b 0 f) :
    ∃ r, widthAwareSlice u f (.slice (some a) (some b) false) = .ok r ∧
      SliceRel u (some (keepLead u f a b)) a b 0 (cells f) (cells r) :=
  slice_rel u f a b hs (fun kl h => by cases h; exact hfree)

/-- Everything except the rule for zero-width characters (`strict = none`) holds for EVERY run layout: columns,
    formatting, replacement spaces, order, nothing invented. -/
theorem C10_slice_columns_partial (u : UEnv) (f : FmtStr) (a b : Nat) (hs : u.sane (text f)) :
    ∃ r, widthAwareSlice u f (.slice (some a) (some b) false) = .ok r ∧
      SliceRel u none a b 0 (cells f) (cells r) :=
  slice_rel u f a b hs (fun kl h => by cases h)

/-- A string held in ONE non-empty run is outside the footprint: there the code meets the full statement. -/
theorem D30Free_single (u : UEnv) (c : Chunk) (a b : Nat) (hs : u.sane c.s) :
    D30Free u (keepLead u [c] a b) a b 0 [c] := by
  have hw := colWidth_nonneg hs
  refine ⟨fun _ _ => ?_, trivial⟩
  have ht : text [c] = c.s := by simp [text]
  simp only [codeKeeps, keepZ, keepLead, ht, decide_eq_true_eq, true_and]
  omega

theorem D30Free_of_no_leading_zw (u : UEnv) (kl : Bool) (a b : Int) (f : FmtStr) (counter : Int)
    (h : ∀ c ∈ f, ∀ ch, c.s.head? = some ch → u.wcwidth ch ≠ 0) : D30Free u kl a b counter f := by
  induction f generalizing counter with
  | nil => trivial
  | cons c rest ih =>
    refine ⟨fun hz hne => ?_, ih _ (fun d hd => h d (by simp [hd]))⟩
    exfalso
    cases hs : c.s with
    | nil => exact hne hs
    | cons y ys => exact h c (by simp) y (by simp [hs]) (hz y (by simp [hs]))

/-! ### finding D30: machine-checked witnesses on the model (the harness replays them on the real code each run) -/

instance (kl : Bool) (a b col : Int) : Decidable (keepZ kl a b col) := by unfold keepZ; infer_instance

/-- The rule without latitude as a function: the one result `SliceRel u (some kl)` admits. -/
def sliceSpec (u : UEnv) (kl : Bool) (a b : Int) : Int → List Cell → List Cell
  | _, [] => []
  | col, x :: rest =>
    if u.wcwidth x.1 = 0 then (if keepZ kl a b col then [x] else []) ++ sliceSpec u kl a b col rest
    else if a ≤ col ∧ col + u.wcwidth x.1 ≤ b then x :: sliceSpec u kl a b (col + u.wcwidth x.1) rest
    else List.replicate (colOverlap a b col (u.wcwidth x.1)) (' ', x.2)
      ++ sliceSpec u kl a b (col + u.wcwidth x.1) rest

theorem SliceRel.eq_sliceSpec {u : UEnv} {kl : Bool} {a b col : Int} {l out : List Cell}
    (h : SliceRel u (some kl) a b col l out) : out = sliceSpec u kl a b col l := by
  induction h with
  | nil => rfl
  | zdrop hz hk _ ih => rw [sliceSpec, if_pos hz, if_neg (hk kl rfl), ih]; rfl
  | zkeep hz _ _ hk _ ih => rw [sliceSpec, if_pos hz, if_pos (hk kl rfl), ih]; rfl
  | inside hw ha hb _ ih => rw [sliceSpec, if_neg (by omega), if_pos ⟨ha, hb⟩, ih]
  | cut hw hn _ ih => rw [sliceSpec, if_neg (by omega), if_neg hn, ih]

theorem not_full_of_witness (u : UEnv) (f r : FmtStr) (a b : Nat) (hs : u.sane (text f))
    (hval : widthAwareSlice u f (.slice (some a) (some b) false) = .ok r)
    (hne : cells r ≠ sliceSpec u (keepLead u f a b) a b 0 (cells f)) :
    ¬ C10_slice_full_statement := by
  intro hfull
  obtain ⟨r', hr, hrel⟩ := hfull u f a b hs
  rw [hval] at hr
  injection hr with hr
  subst hr
  exact hne hrel.eq_sliceSpec

/-- shape S1 - `fmtstr('a') + red('́bcc')`, columns 0..2: the combining character at column 1 (strictly inside,
    its base 'a' is kept) is dropped; the same text in one run keeps it. -/
theorem C10_D30_witness_inside : ¬ C10_slice_full_statement :=
  not_full_of_witness exEnv [⟨['a'], {}⟩, ⟨['́', 'b', 'c', 'c'], {fg := some 1}⟩]
    [⟨['a'], {}⟩, ⟨['b', 'c'], {fg := some 1}⟩] 0 3 (by decide) (by decide +kernel) (by decide +kernel)

/-- shape S2 - `red('a') + green('́')`, columns 0..0 (the whole width): the run starting exactly at the slice
    end is skipped, the accent of the kept 'a' is lost (also for `slice(None, None)`). -/
theorem C10_D30_witness_end : ¬ C10_slice_full_statement :=
  not_full_of_witness exEnv [⟨['a'], {fg := some 1}⟩, ⟨['́'], {fg := some 2}⟩] [⟨['a'], {fg := some 1}⟩] 0 1
    (by decide) (by decide +kernel) (by decide +kernel)

/-- shape S3 - `red('e') + blue('́x')`, column 1 only: the whole-run shortcut keeps the accent of the 'e' that
    lies OUTSIDE the slice (in one run it is dropped). -/
theorem C10_D30_witness_start : ¬ C10_slice_full_statement :=
  not_full_of_witness exEnv [⟨['e'], {fg := some 1}⟩, ⟨['́', 'x'], {fg := some 4}⟩] [⟨['́', 'x'], {fg := some 4}⟩]
    1 2 (by decide) (by decide +kernel) (by decide +kernel)

/-- shape S4 - `red('́') + 'a'`, the whole string requested: the run without columns at column 0 is skipped, while
    the same text in one run comes back complete. -/
theorem C10_D30_witness_lead : ¬ C10_slice_full_statement :=
  not_full_of_witness exEnv [⟨['́'], {fg := some 1}⟩, ⟨['a'], {}⟩] [⟨['a'], {}⟩] 0 1
    (by decide) (by decide +kernel) (by decide +kernel)

/-- one terminal column: a narrow character, or the left / right half of a double-width one -/
inductive ColCell
  | narrow (c : Char) (a : Atts) | left (c : Char) (a : Atts) | right (c : Char) (a : Atts)
  deriving DecidableEq, Repr

/-- column-expanded view: zero-width characters occupy no column -/
def cols (u : UEnv) : List Cell → List ColCell
  | [] => []
  | (c, a) :: rest =>
    if u.wcwidth c = 1 then .narrow c a :: cols u rest
    else if u.wcwidth c = 2 then .left c a :: .right c a :: cols u rest
    else cols u rest

/-- an orphaned right half at the start / left half at the end becomes a space with the same formatting -/
def cutHead : List ColCell → List ColCell
  | .right _ a :: rest => .narrow ' ' a :: rest
  | l => l
def cutLast : List ColCell → List ColCell
  | [] => []
  | [.left _ a] => [.narrow ' ' a]
  | [y] => [y]
  | y :: z :: rest => y :: cutLast (z :: rest)

/-- The slice seen in terminal columns (`cols`): columns `a..b-1` of `f`, a double-width character halved by either
    edge showing as a space in its formatting. Unlike `C10_slice_full_statement` it holds for every run layout
    (`C10_cols`). -/
def C10_cols_full_statement : Prop :=
  ∀ (u : UEnv) (f : FmtStr) (a b : Nat), u.sane (text f) → u.wcwidth ' ' = 1 → a ≤ b →
    ∃ r, widthAwareSlice u f (.slice (some a) (some b) false) = .ok r ∧
      cols u (cells r) = cutHead (cutLast (((cols u (cells f)).take b).drop a))

/-- what the window [a, b) shows of the cells `l` laid out from column `col` -/
def window (u : UEnv) (a b : Nat) : Nat → List Cell → List ColCell
  | _, [] => []
  | col, (c, tt) :: rest =>
    if u.wcwidth c = 1 then
      (if a ≤ col ∧ col < b then [ColCell.narrow c tt] else []) ++ window u a b (col + 1) rest
    else if u.wcwidth c = 2 then
      (if a ≤ col ∧ col + 1 < b then [ColCell.left c tt, ColCell.right c tt]
       else if (a ≤ col ∧ col < b) ∨ (a ≤ col + 1 ∧ col + 1 < b) then [ColCell.narrow ' ' tt]
       else []) ++ window u a b (col + 2) rest
    else window u a b col rest

section
variable {u : UEnv} {x : Cell} {rest : List Cell} {a b col : Nat}

theorem cols_cons_zero (h1 : u.wcwidth x.1 ≠ 1) (h2 : u.wcwidth x.1 ≠ 2) : cols u (x :: rest) = cols u rest := by
  cases x; rw [cols, if_neg h1, if_neg h2]
theorem cols_cons_one (h : u.wcwidth x.1 = 1) : cols u (x :: rest) = .narrow x.1 x.2 :: cols u rest := by
  cases x; rw [cols, if_pos h]
theorem cols_cons_two (h : u.wcwidth x.1 = 2) :
    cols u (x :: rest) = .left x.1 x.2 :: .right x.1 x.2 :: cols u rest := by
  have h1 : u.wcwidth x.1 ≠ 1 := by omega
  cases x; rw [cols, if_neg h1, if_pos h]

theorem window_cons_zero (h1 : u.wcwidth x.1 ≠ 1) (h2 : u.wcwidth x.1 ≠ 2) :
    window u a b col (x :: rest) = window u a b col rest := by
  cases x; rw [window, if_neg h1, if_neg h2]
theorem window_cons_one (h : u.wcwidth x.1 = 1) : window u a b col (x :: rest)
    = (if a ≤ col ∧ col < b then [ColCell.narrow x.1 x.2] else []) ++ window u a b (col + 1) rest := by
  cases x; rw [window, if_pos h]
theorem window_cons_two (h : u.wcwidth x.1 = 2) : window u a b col (x :: rest)
    = (if a ≤ col ∧ col + 1 < b then [ColCell.left x.1 x.2, ColCell.right x.1 x.2]
       else if (a ≤ col ∧ col < b) ∨ (a ≤ col + 1 ∧ col + 1 < b) then [ColCell.narrow ' ' x.2]
       else []) ++ window u a b (col + 2) rest := by
  have h1 : u.wcwidth x.1 ≠ 1 := by omega
  cases x; rw [window, if_neg h1, if_pos h]
end

private theorem cols_replicate_space (u : UEnv) (hsp : u.wcwidth ' ' = 1) (n : Nat) (tt : Atts) (out : List Cell) :
    cols u (List.replicate n (' ', tt) ++ out) = List.replicate n (ColCell.narrow ' ' tt) ++ cols u out := by
  induction n with
  | zero => rfl
  | succ k ih => rw [List.replicate_succ, List.cons_append, cols_cons_one hsp, ih]; rfl

/-- `window` shows a narrow or a double-width cell whole on the test of `SliceRel.inside` -/
private theorem inside_iff_shown_whole {a b col : Nat} :
    (((a : Int) ≤ col ∧ (col : Int) + 1 ≤ b) ↔ (a ≤ col ∧ col < b)) ∧
      (((a : Int) ≤ col ∧ (col : Int) + 2 ≤ b) ↔ (a ≤ col ∧ col + 1 < b)) := by
  omega

theorem SliceRel.window {u : UEnv} {a b : Nat} {colI : Int} {l out : List Cell}
    (h : SliceRel u strict a b colI l out) (hsp : u.wcwidth ' ' = 1) (hs : u.sane (l.map Prod.fst)) :
    ∀ col : Nat, colI = col → cols u out = window u a b col l := by
  have hne : ∀ w : Int, w = 0 → w ≠ 1 ∧ w ≠ 2 := by omega
  induction h with
  | nil col => intro c _; rfl
  | zdrop hz _ _ ih =>
    intro col hc
    have ⟨h1, h2⟩ := hne _ hz
    rw [window_cons_zero h1 h2]
    exact ih (UEnv.sane_cons hs).2 col hc
  | zkeep hz _ _ _ _ ih =>
    intro col hc
    have ⟨h1, h2⟩ := hne _ hz
    rw [window_cons_zero h1 h2, cols_cons_zero h1 h2]
    exact ih (UEnv.sane_cons hs).2 col hc
  | @inside colI x rest out hw ha hb _ ih =>
    intro col hc
    have ⟨hx, hrest⟩ := UEnv.sane_cons hs
    subst hc
    rcases hx with h0 | h1 | h2
    · omega
    · rw [cols_cons_one h1, window_cons_one h1, if_pos (inside_iff_shown_whole.1.mp ⟨ha, h1 ▸ hb⟩),
        ih hrest (col + 1) (by rw [h1]; rfl)]; rfl
    · rw [cols_cons_two h2, window_cons_two h2, if_pos (inside_iff_shown_whole.2.mp ⟨ha, h2 ▸ hb⟩),
        ih hrest (col + 2) (by rw [h2]; rfl)]; rfl
  | @cut colI x rest out hw hn _ ih =>
    intro col hc
    have ⟨hx, hrest⟩ := UEnv.sane_cons hs
    subst hc
    rw [cols_replicate_space u hsp]
    rcases hx with h0 | h1 | h2
    · omega
    · rw [h1] at hn
      rw [window_cons_one h1, if_neg (mt inside_iff_shown_whole.1.mpr hn), ih hrest (col + 1) (by rw [h1]; rfl), h1,
        show colOverlap a b col 1 = 0 from colOverlap_outside (by omega)]; rfl
    · rw [h2] at hn
      rw [window_cons_two h2, if_neg (mt inside_iff_shown_whole.2.mpr hn), ih hrest (col + 2) (by rw [h2]; rfl), h2]
      by_cases h3 : (a ≤ col ∧ col < b) ∨ (a ≤ col + 1 ∧ col + 1 < b)
      · rw [if_pos h3, show colOverlap a b col 2 = 1 by unfold colOverlap; omega]; rfl
      · rw [if_neg h3, show colOverlap a b col 2 = 0 from colOverlap_empty (by omega)]; rfl

theorem cutLast_cons {y : ColCell} (hy : ∀ c a, y ≠ .left c a) (Y : List ColCell) :
    cutLast (y :: Y) = y :: cutLast Y := by
  cases y with
  | left c a => exact absurd rfl (hy c a)
  | narrow _ _ => cases Y <;> rfl
  | right _ _ => cases Y <;> rfl
theorem cutLast_left_right (c c' : Char) (tt tt' : Atts) (Y : List ColCell) :
    cutLast (.left c tt :: .right c' tt' :: Y) = .left c tt :: .right c' tt' :: cutLast Y := by
  show .left c tt :: cutLast (.right c' tt' :: Y) = _
  rw [cutLast_cons (by simp)]

/-- a prefix of `cols`, its last half repaired, does not begin with a right half -/
private theorem cutHead_cutLast_take (u : UEnv) (l : List Cell) (k : Nat) :
    cutHead (cutLast ((cols u l).take k)) = cutLast ((cols u l).take k) := by
  induction l with
  | nil => rw [cols, List.take_nil]; rfl
  | cons x rest ih =>
    by_cases h1 : u.wcwidth x.1 = 1
    · rw [cols_cons_one h1]
      cases k with
      | zero => rfl
      | succ k => rw [List.take_succ_cons, cutLast_cons (by simp)]; rfl
    · by_cases h2 : u.wcwidth x.1 = 2
      · rw [cols_cons_two h2]
        match k with
        | 0 => rfl
        | 1 => rfl
        | k + 2 => rw [List.take_succ_cons, List.take_succ_cons, cutLast_left_right]; rfl
      · rw [cols_cons_zero h1 h2]; exact ih

/-- Moving the cells `k` columns right is moving the window `k` columns left (`a - k`, `b - k` stop at 0, left of which
    there is no cell). -/
theorem window_shift (u : UEnv) (a b k : Nat) (l : List Cell) (col : Nat) :
    window u a b (col + k) l = window u (a - k) (b - k) col l := by
  induction l generalizing col with
  | nil => rfl
  | cons x rest ih =>
    obtain ⟨c, tt⟩ := x
    simp only [window, Nat.sub_le_iff_le_add, Nat.lt_sub_iff_add_lt, Nat.add_right_comm col k, ih]

/-- Past the first cell the window is shifted back to column 0 (`window_shift`), so `a` and `b` count down as `drop`
    and `take` do. -/
theorem window_eq (u : UEnv) (l : List Cell) : ∀ a b : Nat, a ≤ b →
    window u a b 0 l = cutHead (cutLast (((cols u l).take b).drop a)) := by
  induction l with
  | nil => intro a b _; rw [cols, List.take_nil, List.drop_nil]; rfl
  | cons x rest ih =>
    intro a b hab
    -- from the start column on only the right edge cuts
    have right : ∀ n, window u 0 n 0 rest = cutLast ((cols u rest).take n) := fun n => by
      rw [ih 0 n (Nat.zero_le n), List.drop_zero, cutHead_cutLast_take]
    by_cases h1 : u.wcwidth x.1 = 1
    · rw [window_cons_one h1, cols_cons_one h1, window_shift u a b 1 rest 0]
      match a, b, hab with
      | 0, 0, _ => rw [if_neg (by decide), right]; rfl
      | 0, b + 1, _ =>
        rw [if_pos (by simp), Nat.add_sub_cancel, right, List.take_succ_cons, List.drop_zero, cutLast_cons (by simp)]
        rfl
      | a + 1, b + 1, h =>
        rw [if_neg (by simp), Nat.add_sub_cancel, Nat.add_sub_cancel, ih a b (Nat.add_le_add_iff_right.mp h)]
        rfl
    · by_cases h2 : u.wcwidth x.1 = 2
      · rw [window_cons_two h2, cols_cons_two h2, window_shift u a b 2 rest 0]
        match a, b, hab with
        | 0, 0, _ => rw [if_neg (by decide), if_neg (by decide), right]; rfl
        | 0, 1, _ => rw [if_neg (by decide), if_pos (by decide), right]; rfl
        | 0, b + 2, _ =>
          rw [if_pos (by simp), Nat.add_sub_cancel, right, List.take_succ_cons, List.take_succ_cons, List.drop_zero,
            cutLast_left_right]
          rfl
        | 1, 1, _ => rw [if_neg (by decide), if_neg (by decide), right]; rfl
        | 1, b + 2, _ =>
          -- the right half is column `a`
          rw [if_neg (by simp), if_pos (by simp), Nat.add_sub_cancel, right, List.take_succ_cons, List.take_succ_cons]
          show _ = cutHead (cutLast (.right x.1 x.2 :: _))
          rw [cutLast_cons (by simp)]; rfl
        | a + 2, b + 2, h =>
          rw [if_neg (by simp), if_neg (by simp), Nat.add_sub_cancel, Nat.add_sub_cancel,
            ih a b (Nat.add_le_add_iff_right.mp h)]
          rfl
      · rw [window_cons_zero h1 h2, cols_cons_zero h1 h2]; exact ih a b hab

theorem SliceRel.cols_eq {u : UEnv} {a b : Nat} {l out : List Cell} (h : SliceRel u strict a b 0 l out)
    (hsp : u.wcwidth ' ' = 1) (hs : u.sane (l.map Prod.fst)) (hab : a ≤ b) :
    cols u out = cutHead (cutLast (((cols u l).take b).drop a)) := by
  rw [h.window hsp hs 0 rfl, window_eq u l a b hab]

theorem C10_cols : C10_cols_full_statement := by
  intro u f a b hs hsp hab
  obtain ⟨r, hr, hrel⟩ := C10_slice_columns_partial u f a b hs
  exact ⟨r, hr, hrel.cols_eq hsp (sane_cells_fst.mpr hs) hab⟩

theorem cols_length {u : UEnv} {l : List Cell} (hs : u.sane (l.map Prod.fst)) :
    ((cols u l).length : Int) = cellsWidth u l := by
  induction l with
  | nil => rfl
  | cons x rest ih =>
    have ⟨hx, hrest⟩ := UEnv.sane_cons hs
    rw [cellsWidth_cons, ← ih hrest]
    rcases hx with h | h | h
    · rw [cols_cons_zero (by omega) (by omega)]; omega
    · rw [cols_cons_one h, List.length_cons]; omega
    · rw [cols_cons_two h, List.length_cons, List.length_cons]; omega

theorem cutLast_length (Y : List ColCell) : (cutLast Y).length = Y.length := by
  fun_induction cutLast Y <;> simp [*]

theorem cutHead_length (Y : List ColCell) : (cutHead Y).length = Y.length := by
  unfold cutHead; split <;> rfl

/-- The width invariant from column 0, as the length of the column view: `out` is as wide as the part of `l` in the
    columns `[a, b)`. -/
theorem SliceRel.width_col0 {u : UEnv} {a b : Nat} {l out : List Cell} (h : SliceRel u strict a b 0 l out)
    (hs : u.sane (l.map Prod.fst)) (hsp : u.wcwidth ' ' = 1) (hab : a ≤ b) :
    cellsWidth u out = min (b : Int) (cellsWidth u l) - min (a : Int) (cellsWidth u l) := by
  -- of `n` columns `take b` then `drop a` leaves `min b n - min a n` (`a ≤ b`)
  have hcount : ∀ n : Nat, ((min b n - a : Nat) : Int) = min (b : Int) n - min (a : Int) n := fun n => by omega
  have hlen := congrArg List.length (h.cols_eq hsp hs hab)
  rw [cutHead_length, cutLast_length, List.length_drop, List.length_take] at hlen
  rw [← cols_length (h.sane_out hs hsp), hlen, hcount, cols_length hs]

/-- The width of the slice is the number of requested columns that exist. -/
theorem C10_slice_width (u : UEnv) (f : FmtStr) (a b : Nat) (hs : u.sane (text f))
    (hsp : u.wcwidth ' ' = 1) (hab : a ≤ b) :
    ∃ r, widthAwareSlice u f (.slice (some a) (some b) false) = .ok r ∧
      fmtWidth u r = .ok (min (b : Int) (colWidth u (text f)) - min (a : Int) (colWidth u (text f))) := by
  obtain ⟨r, hr, hrel⟩ := C10_slice_columns_partial u f a b hs
  have hsf := sane_cells_fst.mpr hs
  -- the result is sane too: its characters are characters of f or spaces
  have hsr := sane_cells_fst.mp (hrel.sane_out hsf hsp)
  refine ⟨r, hr, ?_⟩
  rw [fmtWidth_eq hsr, ← cellsWidth_cells, hrel.width_col0 hsf hsp hab, cellsWidth_cells]

/-! ### non-vacuity: a string with a double-width and a zero-width character and an empty run meets the hypotheses;
    each half of a double-width character cut off by an edge shows as a space in that character's formatting -/

example : exEnv.sane (text exF) ∧ exEnv.wcwidth ' ' = 1 := exF_sane_and_space
example : fmtWidth exEnv exF = .ok 6 := by rfl
example : widthAwareSlice exEnv exF (.slice (some 2) (some 4) false)
    = .ok [⟨[' '], {fg := some 1}⟩, ⟨[], {}⟩, ⟨[' '], {bold := some true}⟩] := by decide +kernel
example : widthAwareSlice exEnv exF (.slice (some 2) (some 2) false) = .ok [⟨[], {fg := some 1}⟩] := by decide +kernel
example : widthAwareSlice exEnv exF (.slice (some 1) (some 6) false)
    = .ok [⟨['Ｅ'], {fg := some 1}⟩, ⟨[], {}⟩, ⟨['́', 'Ｅ', 'b'], {bold := some true}⟩] := by decide +kernel

end Curtsies
