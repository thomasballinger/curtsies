/-
  C05 - Parsing a FmtStr's terminal string gives the same FmtStr back.

  The idea: on EVERY string of the grammar (text | ESC [ p1;...;pn m)* (`SItem.Valid`: supported codes in any decimal
  spelling, leading zeros as pygments prints them included, within CPython's int(str) digit limit `md`, a model
  parameter) `FmtStr.from_str` gives each character the formatting that the independent terminal reader `Spec.display`
  (Spec/Sgr.lean) shows it with: `C05_parse_is_terminal`. `str(f)` is such a string (`C05_render_in_grammar`) and
  C01_display says what the terminal shows for it: hence `C05_roundtrip`, for every FmtStr whose text is free of
  ESC/0x9b (every attribute dict, explicit False included; empty runs; no runs). `C05_tables` ties the model's constants
  to the tables regenerated from /repo.

  "Same formatting" is stated on effective formatting (`Atts.eff`): an explicit `bold=False` in `f` and an absent
  key display identically and `str(f)` does not distinguish them, so the parsed FmtStr has the key absent.
-/
import Curtsies.Proofs.EscGrammar
import Curtsies.Properties.C01
import Curtsies.Generated.Sgr
import Curtsies.Generated.EscParse
namespace Curtsies
open Spec

/-- One supported value: the dicts `token_type` emits move `cur_fmt` exactly as the terminal's state. -/
theorem upd_is_applySgr (n : Nat) (hn : n ∈ supported) (cur : Atts) :
    updsOfValue (.int n) ≠ [] ∧
    applySgr n cur.eff = some (applyUpds (updsOfValue (.int n)) cur).eff := by
  refine ⟨(by decide : ∀ n ∈ supported, updsOfValue (.int n) ≠ []) n hn, ?_⟩
  simp only [supported, List.mem_cons, List.mem_nil_iff, or_false] at hn
  rcases hn with rfl|rfl|rfl|rfl|rfl|rfl|rfl|rfl|rfl|rfl|rfl|rfl|rfl|rfl|rfl|rfl|rfl|rfl|rfl|rfl|rfl|rfl|rfl|rfl|rfl <;> rfl

theorem upds_are_applySgrs (vs : List Nat) (hv : ∀ n ∈ vs, n ∈ supported) (cur : Atts) :
    (applySgrs vs cur.eff).1 = (applyUpds (vs.flatMap fun n => updsOfValue (.int n)) cur).eff := by
  induction vs generalizing cur with
  | nil => rfl
  | cons n ns ih =>
    obtain ⟨_, h⟩ := upd_is_applySgr n (hv n (by simp)) cur
    simp only [applySgrs, h, List.flatMap_cons, applyUpds, List.foldl_append]
    exact ih (fun m hm => hv m (by simp [hm])) _

theorem tokenItems_sgr {ps : List Text} (h : ∀ n ∈ sgrValues (ps.map intVal), n ∈ supported) :
    tokenItems (some { rawToken false ps [] 'm' with
        numbers := some (if ps = [] then Numbers.raw [] else Numbers.ints (ps.map intVal)) }) =
      .ok (((sgrValues (ps.map intVal)).flatMap fun n => updsOfValue (.int n)).map .upd) := by
  have hvals : valuesOf (if ps = [] then Numbers.raw [] else Numbers.ints (ps.map intVal)) =
      (sgrValues (ps.map intVal)).map .int := by
    cases ps <;> simp [valuesOf, sgrValues]
  have hne : ((sgrValues (ps.map intVal)).flatMap fun n => updsOfValue (.int n)) ≠ [] := fun h0 => by
    obtain ⟨v, hv⟩ := List.exists_mem_of_ne_nil _ (sgrValues_ne (ps.map intVal))
    exact (upd_is_applySgr v (h v hv) {}).1 (List.flatMap_eq_nil_iff.mp h0 v hv)
  simp only [tokenItems, tokenType, rawToken, if_true, hvals, List.flatMap_map]
  cases hl : ((sgrValues (ps.map intVal)).flatMap fun n => updsOfValue (.int n)) with
  | nil => exact absurd hl hne
  | cons u us => simp

/-- One piece of a string of the grammar `(text | ESC [ p1;...;pn m)*`; a parameter is a digit string. -/
inductive SItem
  | text (t : Text)
  | sgr (ps : List Text)

/-- text: free of ESC and 0x9b; sgr: every parameter a non-empty string of ASCII digits, within the int(str) limit,
    whose value is a supported code 0-5, 7, 30-37, 39, 40-47, 49 (the list may be empty: `ESC[m`). -/
def SItem.Valid (md : Nat) : SItem → Prop
  | .text t => NoIntro t
  | .sgr ps => ∀ p ∈ ps, DigStr p ∧ LenOK md p ∧ intVal p ∈ supported

def SItem.print : SItem → Text
  | .text t => t
  | .sgr ps => [ESC, '['] ++ joinSemi ps ++ ['m']

def printS (l : List SItem) : Text := l.flatMap SItem.print

private theorem print_sgr (ps : List Text) : SItem.print (.sgr ps) = csiSeq false ps [] 'm' := by
  simp [SItem.print, csiSeq, csiIntro]

private theorem effCells_of_cells {f g : FmtStr} {t : Text} {cur : Atts}
    (h : cells f = t.map (fun ch => (ch, cur)) ++ cells g) :
    effCells f = t.map (fun ch => (ch, cur.eff)) ++ effCells g := by
  simp [effCells, h, Function.comp_def]

/-- The induction behind C05, item by item: from any `cur_fmt` the parser's dicts move it as the SGR parameters move
    the terminal's graphic state (`upds_are_applySgrs`), and text is laid down under it. -/
private theorem parse_is_feed (md : Nat) (items : List SItem) (hv : ∀ i ∈ items, i.Valid md) :
    ∃ its, parseLoop md (printS items) = .ok its ∧
      ∀ cur : Atts, effCells (fromStrLoop cur its) = (feed .ground cur.eff (printS items)).cells := by
  induction items with
  | nil => exact ⟨[], by simp [printS, parseLoop_nil], fun cur => by simp [printS, fromStrLoop, effCells, feed]⟩
  | cons it rest ih =>
    obtain ⟨its0, hp0, hc0⟩ := ih (fun i hi => hv i (by simp [hi]))
    have hit := hv it (by simp)
    cases it with
    | text t =>
      obtain ⟨its', hp, hc⟩ := (parseLoop_append_noIntro md (t := t) hit (printS rest)).2 its0 hp0
      refine ⟨its', by simpa [printS, SItem.print] using hp, fun cur => ?_⟩
      rw [effCells_of_cells (hc cur), hc0 cur]
      simp only [printS, List.flatMap_cons, SItem.print]
      rw [feed_text t cur.eff _ hit]
    | sgr ps =>
      have hd : ∀ p ∈ ps, DigStr p := fun p hp => (hit p hp).1
      have hl : ∀ p ∈ ps, LenOK md p := fun p hp => (hit p hp).2.1
      have hs := sgrValues_supported (List.forall_mem_map.mpr fun p hp => (hit p hp).2.2)
      refine ⟨((sgrValues (ps.map intVal)).flatMap fun n => updsOfValue (.int n)).map .upd ++ its0, ?_, fun cur => ?_⟩
      · simp only [printS, List.flatMap_cons, print_sgr]
        exact (parseLoop_csiSeq_ok md false hd (hi := by simp) (hc := by decide) _ _).mpr
          ⟨_, postNumbers_join hd hl, _, tokenItems_sgr hs, _, hp0, rfl⟩
      · simp only [printS, List.flatMap_cons, print_sgr]
        rw [fromStrLoop_upds, hc0, feed_sgr _ hd, upds_are_applySgrs _ hs]
        rfl

private theorem plain_noIntro (md : Nat) (items : List SItem) (hv : ∀ i ∈ items, i.Valid md)
    (h : ¬ [ESC, '['] <:+: printS items) : NoIntro (printS items) := by
  intro x hx
  obtain ⟨it, hit, hx⟩ := List.mem_flatMap.mp hx
  cases it with
  | text t => exact hv _ hit x hx
  | sgr ps =>
    have h1 : [ESC, '['] <:+: SItem.print (.sgr ps) := ⟨[], joinSemi ps ++ ['m'], rfl⟩
    exact absurd (h1.trans (infix_flatMap_of_mem hit)) h

/-- Parsing any text interleaved with supported SGR sequences (single or combined parameters, `ESC[m`,
    resets in any order) yields for every character the formatting an ANSI terminal displays it with. -/
theorem C05_parse_is_terminal (md : Nat) (items : List SItem) (hv : ∀ i ∈ items, i.Valid md) :
    ∃ f, fromStr md (printS items) = .ok f ∧ effCells f = (display (printS items)).cells := by
  unfold fromStr
  split
  · obtain ⟨its, hp, hc⟩ := parse_is_feed md items hv
    exact ⟨fromStrLoop {} its, by simp only [parse, hp], hc {}⟩
  · rename_i hb
    refine ⟨_, rfl, ?_⟩
    have hn := plain_noIntro md items hv fun h => hb ((hasEscBracket_iff _).mpr h)
    have := feed_text (printS items) {} [] hn
    simp only [List.append_nil] at this
    simp [display, this, feed, effCells, Chunk.cells, Atts.eff, flag]

/-- `str(f)` is a string of the grammar: run by run, single-parameter sequences, the text, sequences. -/
def itemsOf (f : FmtStr) : List SItem :=
  f.flatMap fun c => (openCodes c.atts).map (fun n => SItem.sgr [dec n]) ++ [SItem.text c.s] ++
    (closeCodes c.atts).map (fun n => SItem.sgr [dec n])

private theorem print_codes (l : List Nat) : (l.map fun n => SItem.sgr [dec n]).flatMap SItem.print = l.flatMap seq := by
  simp only [List.flatMap_map, print_sgr, ← seq_eq]

private theorem sgr_dec_valid {md : Nat} (hmd : md = 0 ∨ 2 ≤ md) {n : Nat} (hn : n ∈ supported) :
    (SItem.sgr [dec n]).Valid md := by
  intro p hp
  rw [List.mem_singleton.mp hp]
  have h100 : n < 10 ^ 2 := (by decide : ∀ n ∈ supported, n < 10 ^ 2) n hn
  exact ⟨dec_digStr n, hmd.imp_right (Nat.le_trans (dec_length_le n (by decide) h100)),
    by rw [intVal_dec]; exact hn⟩

theorem C05_render_in_grammar (md : Nat) (hmd : md = 0 ∨ 2 ≤ md) (f : FmtStr)
    (h : ∀ ch ∈ text f, ch ≠ ESC ∧ ch ≠ CSI8) :
    render f = printS (itemsOf f) ∧ ∀ i ∈ itemsOf f, i.Valid md := by
  constructor
  · simp only [printS, itemsOf, List.flatMap_assoc, List.flatMap_append, print_codes, List.flatMap_singleton, SItem.print]
    exact (C01_only_sgr_string f).1
  · intro i hi
    simp only [itemsOf, List.mem_flatMap, List.mem_append, List.mem_map, List.mem_singleton] at hi
    obtain ⟨c, hc, hi⟩ := hi
    rcases hi with (⟨n, hn, rfl⟩ | rfl) | ⟨n, hn, rfl⟩
    · exact sgr_dec_valid hmd (openCodes_supported _ n hn)
    · intro x hx; exact h x (by simp only [text, List.mem_flatMap]; exact ⟨c, hc, hx⟩)
    · exact sgr_dec_valid hmd (closeCodes_supported _ n hn)

/-- `FmtStr.from_str(str(f))` has the same characters as `f` and the same formatting on every character
    (`md`: the int(str) digit limit; any value that admits two-digit numbers). -/
theorem C05_roundtrip (md : Nat) (hmd : md = 0 ∨ 2 ≤ md) (f : FmtStr) (h : ∀ ch ∈ text f, ch ≠ ESC ∧ ch ≠ CSI8) :
    ∃ g, fromStr md (render f) = .ok g ∧ effCells g = effCells f := by
  obtain ⟨hr, hv⟩ := C05_render_in_grammar md hmd f h
  obtain ⟨g, hg, hc⟩ := C05_parse_is_terminal md (itemsOf f) hv
  rw [← hr] at hg hc
  exact ⟨g, hg, by rw [hc, C01_display f h]⟩

/-- ... in particular the same text. -/
theorem C05_roundtrip_text (md : Nat) (hmd : md = 0 ∨ 2 ≤ md) (f : FmtStr)
    (h : ∀ ch ∈ text f, ch ≠ ESC ∧ ch ≠ CSI8) :
    ∃ g, fromStr md (render f) = .ok g ∧ text g = text f := by
  obtain ⟨g, hg, hc⟩ := C05_roundtrip md hmd f h
  exact ⟨g, hg, by rw [text_eq_effCells, hc, ← text_eq_effCells]⟩

/-- The round trip with the digit limit of the live interpreter (regenerated on every run). -/
theorem C05_roundtrip_live (f : FmtStr) (h : ∀ ch ∈ text f, ch ≠ ESC ∧ ch ≠ CSI8) :
    ∃ g, fromStr Generated.intMaxStrDigits (render f) = .ok g ∧ effCells g = effCells f :=
  C05_roundtrip _ (by decide) f h

def styleName : Style → String
  | .bold => "bold" | .dark => "dark" | .italic => "italic" | .underline => "underline"
  | .blink => "blink" | .invert => "invert"

/-- The live tables: `FG/BG_NUMBER_TO_COLOR` cover exactly the codes 30+i / 40+i, `NUMBER_TO_STYLE` is the
    model's `numberToStyle`, the reset constants are the model's, and `FG_COLORS`/`BG_COLORS`/`STYLES` (with which
    `parse_args` turns names back into numbers) map every name the parser produces back to its number (they may hold
    further names - aliases - that the parser never produces). `List.range 110` covers the SGR codes in use (the
    largest is 107, a bright background): among them `numberToStyle` knows exactly the keys of the live table. -/
theorem C05_tables :
    Generated.fgNumberToColor.map Prod.fst = (List.finRange 8).map fgCode ∧
    Generated.bgNumberToColor.map Prod.fst = (List.finRange 8).map bgCode ∧
    (∀ p ∈ Generated.fgNumberToColor, Generated.fgColors.lookup p.2 = some p.1) ∧
    (∀ p ∈ Generated.bgNumberToColor, Generated.bgColors.lookup p.2 = some p.1) ∧
    Generated.numberToStyle.map (fun p => (numberToStyle p.1).map styleName) =
      Generated.numberToStyle.map (fun p => some p.2) ∧
    (List.range 110).filter (fun n => (numberToStyle n).isSome) = Generated.numberToStyle.map Prod.fst ∧
    Generated.numberToStyle.map (fun p => (p.2, p.1)) = Generated.styles ∧
    Generated.resetAll = RESET_ALL ∧ Generated.resetFg = RESET_FG ∧ Generated.resetBg = RESET_BG := by
  decide +kernel

section
private instance (md : Nat) (p : Text) : Decidable (LenOK md p) := by unfold LenOK; infer_instance
private instance (md : Nat) : (i : SItem) → Decidable (i.Valid md)
  | .text _ => by unfold SItem.Valid; infer_instance
  | .sgr _ => by unfold SItem.Valid; infer_instance

/-- Non-vacuity: "a\n" ESC[01;31;44m "b" ESC[m ESC[39;49;00m "c" is a grammar string (pygments spellings). -/
example : ∀ i ∈ [SItem.text ['a', '\n'], .sgr [['0', '1'], ['3', '1'], ['4', '4']], .text ['b'], .sgr [],
    .sgr [['3', '9'], ['4', '9'], ['0', '0']], .text ['c']], i.Valid 4300 := by
  decide
end

end Curtsies
