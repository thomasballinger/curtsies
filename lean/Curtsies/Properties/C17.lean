/-
  C17 - fmtstr accepts any string: never raises, never loses ordinary text.

  Model: `fromStr md : Text → Except PyErr FmtStr` (Model/EscParse.lean) mirrors `FmtStr.from_str`, with
  `parse` / `peel_off_esc_code` / `token_type` / `remove_ansi`; `fmtstrOf md s a` mirrors `fmtstr(s, **a)`.
  `md` is CPython's int(str) digit limit (a parameter; the driver uses the live interpreter's value).
  The theorems quantify over EVERY `s : List Char` (every Python str without lone surrogates) and every `md`.
  C17_total: never raises (the model can express KeyError/ValueError escaping; the theorem shows none does).

  C17_strips is the positional statement the others follow from: the result's text is `s` with some substrings
  deleted, each a complete escape sequence `ESC [ P* I* F`, `0x9b P* I* F` or `ESC Fe` (`Strips` in
  Proofs/EscParse.lean, `IsSeq` in Model/EscParse.lean). C17_keeps_positional says the same against the INDEPENDENT
  scanner of Spec/EscScan.lean; C17_sub and C17_keeps are its value-level consequences.
  * C17_numeric_full_statement   the property's last clause ("when the escape sequences are ordinary numeric CSI
                  sequences the result's text is exactly s without them") at full strength, over the WIDE grammar
                  (text | (ESC [ | 0x9b) (d*(;d*)*) I* F)*  - 7-bit or 8-bit introducer, parameters possibly empty.
                  It is FALSE for the code as it is (open finding D28, `C17_D28_witness*`):
                    - a string whose sequences all use the 8-bit introducer contains no "ESC[" and takes the
                      fast path of from_str: it is returned verbatim (`0x9b 31 m x`);
                    - a sequence with an empty parameter (`ESC[;5H`, `ESC[1;;3A`) is not matched by the numbers
                      group `(?:[0-9]+;)*(?:[0-9]+)?`; only `ESC[` is peeled and ";5H" stays in the text.
  * C17_numeric_partial   what holds: all parameters non-empty, and either no 8-bit sequence or at least one
                  "ESC[" in the string (then 8-bit sequences are parsed/stripped like 7-bit ones): exactly the
                  complement of D28's two shapes.
-/
import Curtsies.Proofs.EscParse
import Curtsies.Proofs.EscGrammar
namespace Curtsies
open Spec

/-- `fmtstr(s)` / `FmtStr.from_str(s)` never raise. -/
theorem C17_total (md : Nat) (s : Text) : ∃ f, fromStr md s = .ok f := by
  obtain ⟨f, h, _⟩ := fromStr_strips md s
  exact ⟨f, h⟩

/-- Text without the two-character substring ESC '[' comes back verbatim as one unformatted run. -/
theorem C17_plain (md : Nat) (s : Text) (h : ¬ [ESC, '['] <:+: s) : fromStr md s = .ok [⟨s, {}⟩] :=
  fromStr_noEsc md s (Bool.eq_false_iff.mpr fun hb => h ((hasEscBracket_iff s).mp hb))

private theorem mark_of_esc {s : Text} (h : ESC ∈ s) (st : ScanSt) : true ∈ marksFrom st s := by
  induction s generalizing st with
  | nil => cases h
  | cons c r ih =>
    rw [marksFrom]
    rcases List.mem_cons.mp h with rfl | h
    · rw [scan_esc]; exact List.mem_cons_self ..
    · exact List.mem_cons_of_mem _ (ih h _)

/-- "Text containing no escape sequence comes back verbatim and unformatted", with "no escape sequence"
    read off the independent scanner: no character of `s` is claimed by an escape sequence. -/
theorem C17_plain_spec (md : Nat) (s : Text) (h : ∀ m ∈ marks s, m = false) : fromStr md s = .ok [⟨s, {}⟩] := by
  apply C17_plain
  rintro ⟨x, y, rfl⟩
  exact Bool.noConfusion (h true (mark_of_esc (by simp) .ground))

/-- Positional form: the result's text is `s` with some complete escape sequences cut out, everything
    else in place. -/
theorem C17_strips (md : Nat) (s : Text) (f : FmtStr) (h : fromStr md s = .ok f) : Strips s (text f) := by
  obtain ⟨f', h', hs⟩ := fromStr_strips md s
  rw [h] at h'; cases h'
  exact hs

/-- The result's text is `s` with characters removed - never added or reordered. -/
theorem C17_sub (md : Nat) (s : Text) (f : FmtStr) (h : fromStr md s = .ok f) : (text f).Sublist s :=
  (C17_strips md s f h).sublist

/-- Every character that is not part of an escape sequence (ECMA-48 scanner) is kept, in order. -/
theorem C17_keeps (md : Nat) (s : Text) (f : FmtStr) (h : fromStr md s = .ok f) :
    (ordinary s).Sublist (text f) :=
  (C17_strips md s f h).keeps .ground

/-- Positional form of C17_sub + C17_keeps against the independent scanner: the result's text is `s` with
    some characters deleted, and every deleted character is at a position the scanner claims for an escape
    sequence (`Spec.Aligned`). (A value-level Sublist could not tell an ordinary `m` from the `m` of `ESC[31m`.) -/
theorem C17_keeps_positional (md : Nat) (s : Text) (f : FmtStr) (h : fromStr md s = .ok f) :
    Aligned (marks s) s (text f) :=
  (C17_strips md s f h).aligned .ground

/-- `fmtstr(s, **atts)`: returns as well, with the text of `from_str(s)`. -/
theorem C17_fmtstr (md : Nat) (s : Text) (a : Atts) :
    ∃ f g, fromStr md s = .ok f ∧ fmtstrOf md s a = .ok g ∧ text g = text f := by
  obtain ⟨f, h⟩ := C17_total md s
  refine ⟨f, copyWithNewAtts f a, h, by simp [fmtstrOf, h], ?_⟩
  simp only [text, copyWithNewAtts, List.flatMap_map]

/-- The hypotheses of C17_plain / C17_keeps are met non-trivially: a string with a newline and an 8-bit CSI
    has no "ESC[" ; in "a ESC[1m b ESC c" the scanner claims exactly the two sequences. -/
example : ¬ [ESC, '['] <:+: ['a', '\n', CSI8, '1', 'm'] := by decide
example : ordinary ['a', ESC, '[', '1', 'm', 'b', '\n', ESC, 'c', 'd'] = ['a', 'b', '\n', 'd'] := by decide

/-- One piece of a string of the numeric-CSI grammar: ordinary text, or `CSI p1;...;pn I* F` with the
    7-bit (`ESC [`) or 8-bit (`0x9b`) introducer. -/
inductive NItem
  | text (t : Text)
  | csi (eight : Bool) (ps : List Text) (is : Text) (c : Char)

/-- The wide grammar of the statement. text: free of ESC and 0x9b. csi: every parameter a (possibly EMPTY)
    string of ASCII digits, intermediates in 0x20-0x2f, final byte in 0x40-0x7e. -/
def NItem.Wide : NItem → Prop
  | .text t => NoIntro t
  | .csi _ ps is c => (∀ p ∈ ps, ∀ x ∈ p, isDigit x = true) ∧ (∀ x ∈ is, isIntermed x = true) ∧ isFinal c = true

/-- The grammar of the proved part: as `Wide`, with every parameter NON-EMPTY (there may be no parameter). -/
def NItem.Valid : NItem → Prop
  | .text t => NoIntro t
  | .csi _ ps is c => (∀ p ∈ ps, DigStr p) ∧ (∀ x ∈ is, isIntermed x = true) ∧ isFinal c = true

def NItem.eightBit : NItem → Bool
  | .text _ => false
  | .csi eight _ _ _ => eight

def NItem.print : NItem → Text
  | .text t => t
  | .csi eight ps is c => csiSeq eight ps is c

def NItem.strip : NItem → Text
  | .text t => t
  | .csi _ _ _ _ => []

def printN (l : List NItem) : Text := l.flatMap NItem.print
def stripN (l : List NItem) : Text := l.flatMap NItem.strip

/-- The property's last clause at full strength: for every string of the wide grammar the result's text is exactly the string
    without its control sequences. NOT a theorem: see `C17_D28_witness`. -/
def C17_numeric_full_statement (md : Nat) : Prop :=
  ∀ items : List NItem, (∀ i ∈ items, i.Wide) → ∀ f, fromStr md (printN items) = .ok f → text f = stripN items

private theorem numeric_parse (md : Nat) (items : List NItem) (hv : ∀ i ∈ items, i.Valid) :
    ∀ its, parseLoop md (printN items) = .ok its → ∀ cur, text (fromStrLoop cur its) = stripN items := by
  induction items with
  | nil =>
    intro its h
    simp only [printN, List.flatMap_nil, parseLoop_nil] at h
    cases h
    exact fun _ => rfl
  | cons it rest ih =>
    have ih := ih (fun i hi => hv i (by simp [hi]))
    have hit := hv it (by simp)
    intro its h cur
    cases it with
    | text t =>
      simp only [printN, stripN, List.flatMap_cons, NItem.print, NItem.strip] at h ih ⊢
      obtain ⟨h1, h2⟩ := parseLoop_append_noIntro md (t := t) hit (List.flatMap NItem.print rest)
      cases hR : parseLoop md (List.flatMap NItem.print rest) with
      | error e => rw [h1 e hR] at h; cases h
      | ok its0 =>
        obtain ⟨its', hp, hc⟩ := h2 its0 hR
        rw [hp] at h; cases h
        rw [text_eq_cells, hc, List.map_append, ← text_eq_cells, ih its0 hR]
        simp [Function.comp_def]
    | csi eight ps is c =>
      obtain ⟨hps, hi, hc⟩ := hit
      simp only [printN, stripN, List.flatMap_cons, NItem.print, NItem.strip, List.nil_append] at h ⊢
      obtain ⟨v, -, toks, hT, more, hR, rfl⟩ := (parseLoop_csiSeq_ok md eight hps hi hc _ _).mp h
      obtain ⟨us, rfl⟩ := tokenItems_upds hT
      rw [fromStrLoop_upds]
      exact ih more hR _

private theorem numeric_removeAnsi (items : List NItem) (hv : ∀ i ∈ items, i.Valid) :
    removeAnsi (printN items) = stripN items := by
  unfold removeAnsi
  induction items with
  | nil => rfl
  | cons it rest ih =>
    have ih := ih (fun i hi => hv i (by simp [hi]))
    have hit := hv it (by simp)
    cases it with
    | text t =>
      simp only [printN, stripN, List.flatMap_cons, NItem.print, NItem.strip] at ih ⊢
      rw [removeAnsiAux_append_noIntro hit, ih]
    | csi eight ps is c =>
      obtain ⟨hps, hi, hc⟩ := hit
      simp only [printN, stripN, List.flatMap_cons, NItem.print, NItem.strip, List.nil_append] at ih ⊢
      rw [csiSeq, removeAnsiAux_csi eight (joinSemi_params hps) hi hc, ih]

private theorem numeric_plain (items : List NItem) (h7 : ∀ i ∈ items, i.eightBit = false)
    (h : ¬ [ESC, '['] <:+: printN items) : printN items = stripN items := by
  have hi : ∀ it ∈ items, it.print = it.strip := fun it hit => by
    cases it with
    | text t => rfl
    | csi eight ps is c =>
      have he : eight = false := h7 _ hit
      subst he
      exact absurd (List.IsInfix.trans ⟨[], joinSemi ps ++ is ++ [c], by simp [NItem.print, csiSeq, csiIntro]⟩
        (infix_flatMap_of_mem hit)) h
  rw [printN, stripN, List.flatMap_def, List.flatMap_def, List.map_congr_left hi]

/-- When the escape sequences are ordinary numeric CSI sequences - colours and styles supported or not,
    cursor movement, erasing: any non-empty parameters, intermediates and final byte - the result's text is
    exactly `s` without them, PROVIDED the string has no 8-bit sequence or contains "ESC[" somewhere.
    Missing for the full statement: 8-bit-only strings and empty parameters (finding D28). -/
theorem C17_numeric_partial (md : Nat) (items : List NItem) (hv : ∀ i ∈ items, i.Valid)
    (hfast : (∀ i ∈ items, i.eightBit = false) ∨ [ESC, '['] <:+: printN items)
    (f : FmtStr) (h : fromStr md (printN items) = .ok f) : text f = stripN items := by
  unfold fromStr at h
  split at h
  · cases hP : parse md (printN items) with
    | ok its =>
      rw [hP] at h; cases h
      exact numeric_parse md items hv its hP {}
    | error e =>
      have := parse_error hP
      subst this
      rw [hP] at h; cases h
      simpa [text] using numeric_removeAnsi items hv
  · rename_i hb
    cases h
    rcases hfast with h7 | hinf
    · simpa [text] using numeric_plain items h7 fun h => hb ((hasEscBracket_iff _).mpr h)
    · exact absurd ((hasEscBracket_iff _).mpr hinf) hb

private instance : (i : NItem) → Decidable i.Wide
  | .text _ => by unfold NItem.Wide; infer_instance
  | .csi .. => by unfold NItem.Wide; infer_instance

/-- D28, first shape: `0x9b 31 m x` (a complete 8-bit SGR sequence, no "ESC[" in the string) comes back
    verbatim - the full statement fails in the model exactly as in the code. -/
theorem C17_D28_witness (md : Nat) : ¬ C17_numeric_full_statement md := by
  intro hfull
  have := hfull [.csi true [['3', '1']] [] 'm', .text ['x']] (by decide) [⟨[CSI8, '3', '1', 'm', 'x'], {}⟩] (by
    unfold fromStr
    rw [if_neg (by decide)]
    rfl)
  revert this
  decide

/-- D28, second shape: `ESC [ ; 5 H x` (cursor to row 1, column 5) leaves ";5H" in the text. -/
theorem C17_D28_witness_empty_param (md : Nat) : ¬ C17_numeric_full_statement md := by
  intro hfull
  have hp1 : peelMatch [ESC, '[', ';', '5', 'H', 'x'] =
      ([], some ⟨[ESC], none, [], '[', [ESC, '[']⟩, [';', '5', 'H', 'x']) := by decide
  have hp2 : peelMatch [';', '5', 'H', 'x'] = ([';', '5', 'H', 'x'], none, []) := by decide
  have hparse : parse md [ESC, '[', ';', '5', 'H', 'x'] = .ok [.str [';', '5', 'H', 'x']] := by
    unfold parse
    rw [parseLoop_eq]
    simp only [peel, hp1, postToken, tokenItems, tokenType]
    rw [if_neg (by decide), if_neg (by decide)]
    rw [parseLoop_eq]
    simp only [peel, hp2, postToken, tokenItems, parseLoop_nil]
    rfl
  have := hfull [.csi false [[], ['5']] [] 'H', .text ['x']] (by decide) [⟨[';', '5', 'H', 'x'], {}⟩] (by
    unfold fromStr
    rw [if_pos (by decide)]
    show (match parse md [ESC, '[', ';', '5', 'H', 'x'] with
      | .ok items => _ | .error .valueError => _ | .error e => _) = _
    rw [hparse]
    rfl)
  revert this
  decide

section
private instance : (i : NItem) → Decidable i.Valid
  | .text _ => by unfold NItem.Valid; infer_instance
  | .csi .. => by unfold NItem.Valid; infer_instance

/-- Non-vacuity of C17_numeric_partial: "a\n" ESC[38;5;196m "x" 0x9b 2 A ESC[K ESC[1 q "end" is in the proved
    grammar and contains "ESC[" (so its 8-bit sequence is covered). -/
example : (∀ i ∈ [NItem.text ['a', '\n'], .csi false [['3', '8'], ['5'], ['1', '9', '6']] [] 'm', .text ['x'],
    .csi true [['2']] [] 'A', .csi false [] [] 'K', .csi false [['1']] [' '] 'q', .text ['e', 'n', 'd']], i.Valid) ∧
    [ESC, '['] <:+: printN [NItem.text ['a', '\n'], .csi false [['3', '8'], ['5'], ['1', '9', '6']] [] 'm',
      .text ['x'], .csi true [['2']] [] 'A', .csi false [] [] 'K', .csi false [['1']] [' '] 'q',
      .text ['e', 'n', 'd']] := by
  decide
end

end Curtsies
