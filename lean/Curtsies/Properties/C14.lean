/-
  C14 - Applying or removing formatting touches exactly the named attributes.

  Applying an attribute dict sets exactly its entries on every character, overriding an earlier value of the same
  attribute and leaving the text and all other attributes alone (`C14_apply`, `C14_override`); likewise removal,
  `copy_with_new_str`, `shared_atts`.  `C14_spellings_*`: positional ≡ keyword name ≡ number ≡ `style=` ≡ the fmtfuncs
  helper, over the REGENERATED tables (`decide +kernel`; a changed table re-opens these).
  What a specification MEANS is `denote` (Spec/ParseArgs.lean); that `parse_args` computes it is `C14_full_statement`:
  `parseArgs_eq_denote` (Proofs/ParseArgs.lean) at the live tables (`C14_tables`).

  Hypotheses: keyword names are distinct (Python rejects a repeated keyword at the call); `str.lower` is a parameter, and
  the spelling theorems are stated for one that leaves the (lower-case) table names alone (`C14_lower_congr` transfers
  them to any such `lower`).
-/
import Curtsies.Generated.Fmtfuncs
import Curtsies.Proofs.Atts
import Curtsies.Proofs.ParseArgs
namespace Curtsies

/-- The eight canonical colour names (what `repr` prints: the number -> name tables). -/
def colourNames : List String := ["black", "red", "green", "yellow", "blue", "magenta", "cyan", "gray"]
def colourName (i : Fin 8) : String := colourNames[i.val]!

theorem C14_tables : TablesWF := by
  unfold TablesWF
  decide +kernel

/-- FULL STATEMENT (soundness, completeness, error kind): given distinct keyword names `parse_args` returns exactly the
    denoted dict, and raises ValueError - nothing else - when the specification is invalid. -/
def C14_full_statement : Prop :=
  ∀ (lower : String → String) (args : List ArgVal) (kw : Kw), (kw.map Prod.fst).Nodup →
    (∀ a, parseArgs lower args kw = .ok a ↔ denote lower args kw = some a) ∧
    (denote lower args kw = none → parseArgs lower args kw = .error .valueError)

/-- `extend`: a named attribute takes the new value, every other keeps what it had. -/
theorem C14_override (old a : Atts) (k : Key) :
    (old.extend a).get k = if a.has k then a.get k else old.get k := by
  rw [Atts.get_extend, Atts.has_eq]
  cases a.get k <;> rfl

/-- `copy_with_new_atts(**a)` (hence `fmtstr(f, spec)` and the fmtfuncs helpers: `parse_args`, then this): same
    characters in the same order, each dict overridden by `a` (`C14_override`). -/
theorem C14_apply (f : FmtStr) (a : Atts) :
    cells (copyWithNewAtts f a) = (cells f).map fun p => (p.1, p.2.extend a) :=
  cells_map_atts (·.extend a) f

theorem C14_apply_text (f : FmtStr) (a : Atts) : text (copyWithNewAtts f a) = text f := by
  rw [text_eq_cells, text_eq_cells, C14_apply]; simp [List.map_map, Function.comp_def]

/-- `fmtstr(f, *args, **kwargs)` and the helpers: either an error with nothing built, or the parsed dict applied to
    every character. -/
theorem C14_fmtstr (lower : String → String) (f : FmtStr) (args : List ArgVal) (kw : Kw) (r : FmtStr)
    (h : fmtstrApply lower f args kw = .ok r) :
    ∃ a, parseArgs lower args kw = .ok a ∧ cells r = (cells f).map fun p => (p.1, p.2.extend a) := by
  unfold fmtstrApply at h
  cases hp : parseArgs lower args kw with
  | error e => rw [hp] at h; cases h
  | ok a => rw [hp] at h; injection h with h; exact ⟨a, rfl, by rw [← h, C14_apply]⟩

/-- `remove`: exactly the named attributes disappear. -/
theorem C14_remove_key (a : Atts) (ks : List Key) (k : Key) :
    (a.remove ks).get k = if k ∈ ks then none else a.get k := by
  unfold Atts.remove
  induction ks generalizing a with
  | nil => simp
  | cons j js ih =>
    simp only [List.foldl_cons, ih, Atts.get_erase, List.mem_cons]
    by_cases h1 : k ∈ js <;> by_cases h2 : k = j <;> simp [h1, h2]

/-- `new_with_atts_removed(*ks)`: same characters, each dict without the named attributes. -/
theorem C14_remove (f : FmtStr) (ks : List Key) :
    cells (newWithAttsRemoved f ks) = (cells f).map fun p => (p.1, p.2.remove ks) :=
  cells_map_atts (·.remove ks) f

/-- `copy_with_new_str` when there is a character and every CHARACTER has the dict `a` (empty runs may carry anything:
    the code reads the non-empty runs only, when there is one): the text is swapped, the formatting kept. -/
theorem C14_newstr (f : FmtStr) (a : Atts) (t : Text) (hne : cells f ≠ []) (hu : ∀ p ∈ cells f, p.2 = a) :
    copyWithNewStr f t = [⟨t, a⟩] := by
  have hall := (forall_cells_iff f (· = a)).mp hu
  have fold : ∀ g : FmtStr, (∀ c ∈ g, c.atts = a) → g.foldl (fun acc c => acc.extend c.atts) a = a := by
    intro g hg
    induction g with
    | nil => rfl
    | cons c g ih =>
      rw [List.foldl_cons, hg c (List.mem_cons_self ..), Atts.extend_self]
      exact ih fun c hc => hg c (List.mem_cons_of_mem _ hc)
  unfold copyWithNewStr
  -- the non-empty runs: there is one, and each has dict `a`
  cases hf : f.filter (fun c : Chunk => !c.s.isEmpty) with
  | nil => exact absurd ((cells_eq_nil_iff f).mpr hf) hne
  | cons c g =>
    rw [hf] at hall
    simp only [List.isEmpty_cons, Bool.false_eq_true, if_false, List.foldl_cons, Atts.empty_extend]
    rw [hall c (List.mem_cons_self ..), fold g fun c hc => hall c (List.mem_cons_of_mem _ hc)]

theorem C14_newstr_cells (f : FmtStr) (a : Atts) (t : Text) (hne : cells f ≠ []) (hu : ∀ p ∈ cells f, p.2 = a) :
    cells (copyWithNewStr f t) = t.map fun ch => (ch, a) := by
  rw [C14_newstr f a t hne hu]; simp [Chunk.cells]

/-- Non-vacuity with an empty run (finding D32): an empty bold run in front of a red character does not leak `bold`. -/
example : copyWithNewStr [⟨[], { bold := some true }⟩, ⟨['a'], { fg := some 1 }⟩] ['x'] = [⟨['x'], { fg := some 1 }⟩] := by
  decide

/-- `shared_atts` only ever reports an entry that every character has. -/
theorem C14_shared (f : FmtStr) (a : Atts) (h : sharedAtts f = .ok a) :
    ∀ p ∈ cells f, a.le p.2 := by
  intro p hp
  obtain ⟨sh, hs, hget⟩ := sharedAtts_get f (List.ne_nil_of_mem hp)
  rw [h] at hs; injection hs with hs; subst hs
  exact Atts.le_iff.mpr fun k v hv => (hget k v).mp hv p hp

/-- With at least one character `shared_atts` reports EXACTLY the common entries: the greatest dict contained in every
    character's. -/
theorem C14_shared_complete (f : FmtStr) (hch : cells f ≠ []) :
    ∃ sh, sharedAtts f = .ok sh ∧ (∀ p ∈ cells f, sh.le p.2) ∧
      ∀ x : Atts, (∀ p ∈ cells f, x.le p.2) → x.le sh := by
  obtain ⟨sh, hs, hget⟩ := sharedAtts_get f hch
  exact ⟨sh, hs, C14_shared f sh hs,
    fun x hx => Atts.le_iff.mpr fun k v hv => (hget k v).mpr fun p hp => Atts.le_iff.mp (hx p hp) k v hv⟩

/-- Non-vacuity of `C14_shared`: a three-run string (one run empty) sharing `fg` but not `bold`. -/
example : sharedAtts [⟨[], {}⟩, ⟨['a'], { fg := some 1, bold := some true }⟩, ⟨['b'], { fg := some 1 }⟩]
    = .ok { fg := some 1 } := by decide

/-- Stands in for `str.lower`: correct on the already lower-case table names. -/
def idl : String → String := fun s => s

/-- Foreground colour i by its CANONICAL name: positional ≡ `fg=name` ≡ `fg=30+i` ≡ `style=name` ≡ the helper of that name. -/
theorem C14_spellings_fg : ∀ i : Fin 8,
    parseArgs idl [.str (colourName i)] [] = .ok { fg := some i } ∧
    parseArgs idl [] [("fg", .str (colourName i))] = .ok { fg := some i } ∧
    parseArgs idl [] [("fg", .int (30 + i.val))] = .ok { fg := some i } ∧
    parseArgs idl [] [("style", .str (colourName i))] = .ok { fg := some i } ∧
    Generated.fmtfuncs.lookup (colourName i) = some (colourName i) ∧
    parseArgs idl [] (fmtfuncKw (colourName i) []) = .ok { fg := some i } := by
  decide +kernel

/-- Background colour i: `'on_'+name` ≡ `bg=name` ≡ `bg=40+i` ≡ `style='on_'+name` ≡ the helper `on_<name>`. -/
theorem C14_spellings_bg : ∀ i : Fin 8,
    parseArgs idl [.str ("on_" ++ colourName i)] [] = .ok { bg := some i } ∧
    parseArgs idl [] [("bg", .str (colourName i))] = .ok { bg := some i } ∧
    parseArgs idl [] [("bg", .int (40 + i.val))] = .ok { bg := some i } ∧
    parseArgs idl [] [("style", .str ("on_" ++ colourName i))] = .ok { bg := some i } ∧
    Generated.fmtfuncs.lookup ("on_" ++ colourName i) = some ("on_" ++ colourName i) ∧
    parseArgs idl [] (fmtfuncKw ("on_" ++ colourName i) []) = .ok { bg := some i } := by
  decide +kernel

def styleAtts : Key → Bool → Atts
  | .bold, b => { bold := some b } | .dark, b => { dark := some b } | .italic, b => { italic := some b }
  | .underline, b => { underline := some b } | .blink, b => { blink := some b } | .invert, b => { invert := some b }
  | _, _ => {}

/-- Style s: positional ≡ `s=True` ≡ `style=s` ≡ repeated consistent mentions ≡ the helper; `s=False` sets False. -/
theorem C14_spellings_style : ∀ p ∈ styleNames,
    parseArgs idl [.str p.1] [] = .ok (styleAtts p.2 true) ∧
    parseArgs idl [] [(p.1, .bool true)] = .ok (styleAtts p.2 true) ∧
    parseArgs idl [] [("style", .str p.1)] = .ok (styleAtts p.2 true) ∧
    parseArgs idl [.str p.1, .str p.1] [(p.1, .bool true)] = .ok (styleAtts p.2 true) ∧
    parseArgs idl [] [(p.1, .bool false)] = .ok (styleAtts p.2 false) ∧
    Generated.fmtfuncs.lookup p.1 = some p.1 ∧
    parseArgs idl [] (fmtfuncKw p.1 []) = .ok (styleAtts p.2 true) := by
  decide +kernel

/-- The helper conjuncts (the last two) of the three theorems above, so that no other proof reaches into them by position. -/
theorem fmtfunc_fg (i : Fin 8) : Generated.fmtfuncs.lookup (colourName i) = some (colourName i) ∧
    parseArgs idl [] (fmtfuncKw (colourName i) []) = .ok { fg := some i } :=
  (C14_spellings_fg i).2.2.2.2
theorem fmtfunc_bg (i : Fin 8) : Generated.fmtfuncs.lookup ("on_" ++ colourName i) = some ("on_" ++ colourName i) ∧
    parseArgs idl [] (fmtfuncKw ("on_" ++ colourName i) []) = .ok { bg := some i } :=
  (C14_spellings_bg i).2.2.2.2
theorem fmtfunc_style (p : String × Key) (hp : p ∈ styleNames) : Generated.fmtfuncs.lookup p.1 = some p.1 ∧
    parseArgs idl [] (fmtfuncKw p.1 []) = .ok (styleAtts p.2 true) :=
  (C14_spellings_style p hp).2.2.2.2.2

/-- Every fmtfuncs helper in the live module is `fmtstr` with its bound name as the one positional argument (`plain`:
    none), and that specification is valid. -/
theorem C14_spellings_fmtfuncs : ∀ p ∈ Generated.fmtfuncs,
    parseArgs idl [] (fmtfuncKw p.2 []) = parseArgs idl (if p.2 = "" then [] else [.str p.2]) [] ∧
    (parseArgs idl [] (fmtfuncKw p.2 [])).toOption.isSome := by
  decide +kernel

/-- EVERY name of the live foreground table (aliases included): positional ≡ `fg=name` ≡ `fg=number` ≡ `style=name`,
    all meaning the colour whose code the table gives. -/
theorem C14_spellings_live_fg : ∀ p ∈ Generated.fgColors,
    (colourIndex 30 (.int (p.2 : Nat))).isSome = true ∧
    parseArgs idl [.str p.1] [] = .ok { fg := colourIndex 30 (.int (p.2 : Nat)) } ∧
    parseArgs idl [] [("fg", .str p.1)] = .ok { fg := colourIndex 30 (.int (p.2 : Nat)) } ∧
    parseArgs idl [] [("fg", .int p.2)] = .ok { fg := colourIndex 30 (.int (p.2 : Nat)) } ∧
    parseArgs idl [] [("style", .str p.1)] = .ok { fg := colourIndex 30 (.int (p.2 : Nat)) } := by
  decide +kernel

/-- EVERY name of the live background table: `'on_'+name` ≡ `bg=name` ≡ `bg=number` ≡ `style='on_'+name`; and
    `on_<name>` is the background of the SAME colour index as the foreground `<name>`. -/
theorem C14_spellings_live_bg : ∀ p ∈ Generated.bgColors,
    (colourIndex 40 (.int (p.2 : Nat))).isSome = true ∧
    parseArgs idl [.str ("on_" ++ p.1)] [] = .ok { bg := colourIndex 40 (.int (p.2 : Nat)) } ∧
    parseArgs idl [] [("bg", .str p.1)] = .ok { bg := colourIndex 40 (.int (p.2 : Nat)) } ∧
    parseArgs idl [] [("bg", .int p.2)] = .ok { bg := colourIndex 40 (.int (p.2 : Nat)) } ∧
    parseArgs idl [] [("style", .str ("on_" ++ p.1))] = .ok { bg := colourIndex 40 (.int (p.2 : Nat)) } ∧
    (parseArgs idl [.str p.1] []).toOption.map Atts.fg = some (colourIndex 40 (.int (p.2 : Nat))) := by
  decide +kernel

/-- Live `fmtfuncs`: a helper whose NAME is itself an accepted positional spelling means exactly that spelling (a helper
    bound to the wrong word fails here); each of the 8 + 8 colours and 6 styles has a helper, and one binds nothing. -/
theorem C14_fmtfuncs_names :
    (∀ p ∈ Generated.fmtfuncs, (parseArgs idl [.str p.1] []).toOption.isSome = true →
        parseArgs idl [] (fmtfuncKw p.2 []) = parseArgs idl [.str p.1] []) ∧
    (∀ i : Fin 8, Generated.fmtfuncs.any (fun p => parseArgs idl [] (fmtfuncKw p.2 []) == .ok { fg := some i }) = true) ∧
    (∀ i : Fin 8, Generated.fmtfuncs.any (fun p => parseArgs idl [] (fmtfuncKw p.2 []) == .ok { bg := some i }) = true) ∧
    (∀ q ∈ styleNames, Generated.fmtfuncs.any (fun p => parseArgs idl [] (fmtfuncKw p.2 []) == .ok (styleAtts q.2 true)) = true) ∧
    Generated.fmtfuncs.any (fun p => p.2 == "") = true := by
  -- One `decide +kernel` on the whole statement is slow.  A helper named like the word it binds means that word
  -- (`parseArgs_fmtfuncKw`); only the others are evaluated (`Or` is decided left to right).
  have h : ∀ p ∈ Generated.fmtfuncs, ((p.2 == "") = false ∧ p.2 = p.1) ∨
      ((parseArgs idl [.str p.1] []).toOption.isSome = true →
        parseArgs idl [] (fmtfuncKw p.2 []) = parseArgs idl [.str p.1] []) := by decide +kernel
  have found : ∀ {name bound : String} {r : Except PyErr Atts}, Generated.fmtfuncs.lookup name = some bound ∧
      parseArgs idl [] (fmtfuncKw bound []) = r →
      Generated.fmtfuncs.any (fun p => parseArgs idl [] (fmtfuncKw p.2 []) == r) = true :=
    fun ⟨hl, hp⟩ => List.any_eq_true.mpr ⟨_, lookup_mem hl, by simp [hp]⟩
  refine ⟨fun p hp hs => ?_, fun i => found (fmtfunc_fg i), fun i => found (fmtfunc_bg i),
    fun q hq => found (fmtfunc_style q hq), by decide +kernel⟩
  rcases h p hp with ⟨hb, e⟩ | h
  · rw [parseArgs_fmtfuncKw idl p.2 [] [] hb rfl, e]; rfl
  · exact h hs

theorem C14_spellings_on_dark :
    Generated.fmtfuncs.lookup "on_dark" = Generated.fmtfuncs.lookup "on_black" := by decide +kernel

/-- Only the values of `lower` on the positional strings (and on their `[3:]`) matter, so the spelling
    theorems hold for every `lower` that leaves the table names alone. -/
theorem C14_lower_congr (l1 l2 : String → String) (args : List ArgVal) (kw : Kw)
    (h : ∀ s, ArgVal.str s ∈ args ++ (kw.get? "style").toList → l1 s = l2 s ∧ l1 (strDrop3 s) = l2 (strDrop3 s)) :
    parseArgs l1 args kw = parseArgs l2 args kw := by
  rw [parseArgs_norm, parseArgs_norm]
  generalize args ++ (kw.get? "style").toList = as at h
  generalize kw.del "style" = k
  suffices posLoop l1 k as = posLoop l2 k as by rw [this]
  induction as generalizing k with
  | nil => rfl
  | cons a rest ih =>
    have e : posStep l1 k a = posStep l2 k a := by
      cases a with
      | str s =>
        obtain ⟨e1, e2⟩ := h s (List.mem_cons_self ..)
        simp only [posStep, e1, e2]
      | _ => rfl
    simp only [posLoop, e]
    cases posStep l2 k a with
    | error _ => rfl
    | ok k' => exact ih (fun s hm => h s (List.mem_cons_of_mem _ hm)) k'

/-- Two attribute dicts that name no common attribute can be applied in either order (nesting `red(bold(x))` /
    `bold(red(x))`, or two `copy_with_new_atts`). -/
theorem C14_order_indep (f : FmtStr) (a b : Atts) (h : ∀ k : Key, a.has k = false ∨ b.has k = false) :
    copyWithNewAtts (copyWithNewAtts f a) b = copyWithNewAtts (copyWithNewAtts f b) a := by
  have e : ∀ x : Atts, (x.extend a).extend b = (x.extend b).extend a := fun x => Atts.ext_get fun k => by
    simp only [C14_override]
    -- one of `a`, `b` has no entry at `k`, and then both sides read the other one, or `x`
    rcases h k with hk | hk <;> simp only [hk, Bool.false_eq_true, if_false]
  simp only [copyWithNewAtts, List.map_map]
  exact List.map_congr_left fun c _ => by simp [e]

/-- A fmtfuncs helper called with ANY further arguments is `fmtstr` with its bound name as one more (last) positional
    argument; an own `style=` replaces the bound name (functools.partial). -/
theorem C14_fmtfunc_general (lower : String → String) (bound : String) (f : FmtStr) (args : List ArgVal) (kw : Kw)
    (hb : (bound == "") = false) :
    (kw.has "style" = false → fmtfuncApply lower bound f args kw = fmtstrApply lower f (args ++ [.str bound]) kw) ∧
    (kw.has "style" = true → fmtfuncApply lower bound f args kw = fmtstrApply lower f args kw) := by
  constructor
  · intro hs
    simp only [fmtfuncApply, fmtstrApply, parseArgs_fmtfuncKw lower bound args kw hb hs]
  · intro hs
    simp [fmtfuncApply, fmtfuncKw, hs]

/-- The live `fmtfuncs` module: every public callable is `functools.partial(fmtstr)` with no bound positional
    argument and at most the keyword `style`, and these are exactly the names of the `fmtfuncs` table. -/
theorem C14_fmtfuncs_shape :
    (∀ p ∈ Generated.fmtfuncShape, p.2.1 = true ∧ p.2.2.1 = true ∧ p.2.2.2.1 = 0 ∧ ∀ k ∈ p.2.2.2.2, k = "style") ∧
    Generated.fmtfuncShape.map Prod.fst = Generated.fmtfuncs.map Prod.fst := by
  decide +kernel

/-- For ALL inputs, repeated keyword names included, and whatever the colour and style tables hold, `parse_args` raises
    nothing but ValueError, stage by stage; `otherException` is the model's own "dict not representable as `Atts`" outcome
    of `toAtts`, unreachable at the live tables (`C14_error_kind`). -/
theorem C14_error_kind_weak (lower : String → String) (args : List ArgVal) (kw : Kw) (e : PyErr)
    (h : parseArgs lower args kw = .error e) : e = .valueError ∨ e = .otherException := by
  rw [parseArgs_norm] at h
  -- the error that comes out is the error of the stage that stopped
  split at h
  next _ hp => exact Or.inl (posLoop_err lower _ _ e (Except.error.inj h ▸ hp))
  next k _ =>
    unfold parseTail at h
    split at h
    next _ hk => exact Or.inl (keyLoop_err k e (Except.error.inj h ▸ hk))
    next =>
      split at h
      next _ hfg => exact Or.inl (colourBlock_err _ _ _ e (Except.error.inj h ▸ hfg))
      next =>
        split at h
        next _ hbg => exact Or.inl (colourBlock_err _ _ _ e (Except.error.inj h ▸ hbg))
        next =>
          split at h
          · cases h
          · exact Or.inr (Except.error.inj h).symm

def posReps : List ArgVal := [.str "red", .str "on_blue", .str "bold", .str "nope", .int 31, .none]
def kwReps : List (String × ArgVal) :=
  [("fg", .str "red"), ("fg", .int 34), ("fg", .int 41), ("fg", .bool true), ("fg", .float),
   ("bg", .str "blue"), ("bg", .none), ("bold", .bool true), ("bold", .bool false), ("bold", .int 1),
   ("colour", .str "red"), ("style", .str "bold"), ("style", .str "blue"), ("style", .int 5)]
def lists2 (l : List α) : List (List α) :=
  [[]] ++ l.map (fun a => [a]) ++ l.flatMap (fun a => l.map fun b => [a, b])
def kwPool : List Kw := (lists2 kwReps).filter fun kw => (kw.map Prod.fst).Nodup

/-- The full statement at `idl` and the 43 x 163 = 7009 specifications with at most two positional arguments from
    `posReps` and at most two keyword arguments with distinct names from `kwReps`: an instance of `parseArgs_eq_denote`,
    nothing is evaluated; of the pool the proof uses only that its keyword names are distinct. -/
theorem C14_sound_complete_bounded :
    ∀ pos ∈ lists2 posReps, ∀ kw ∈ kwPool,
      (parseArgs idl pos kw).toOption = denote idl pos kw ∧
      (denote idl pos kw = none → parseArgs idl pos kw = .error .valueError) := by
  intro pos _ kw hkw
  rw [parseArgs_eq_denote C14_tables idl pos kw (of_decide_eq_true (List.mem_filter.mp hkw).2)]
  cases denote idl pos kw <;> simp [Except.toOption]

/-- Non-vacuity of the denotation: a mixed valid specification and its value; three invalid ones. -/
example : denote idl [.str "red", .str "bold"] [("bg", .int 44), ("underline", .bool false)]
    = some { fg := some 1, bold := some true, bg := some 4, underline := some false } := by decide +kernel
example : denote idl [.str "red"] [("fg", .str "blue")] = none := by decide +kernel
example : denote idl [.str "bold"] [("bold", .bool false)] = none := by decide +kernel
example : denote idl [] [("fg", .bool true)] = none := by decide +kernel

end Curtsies
