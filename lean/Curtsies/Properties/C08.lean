/-
  C08 - Input returns every byte and triggered event exactly once, in order.

  Model: Model/Input.lean (`send` mirrors `_send` / `_wait_for_read_ready_or_timeout` / `find_key` /
  `_nonblocking_read` statement by statement against an agenda of environment actions).  All theorems hold for EVERY
  key-segmentation function `gk` (events.get_key is a parameter), byte type β (parametric: bytes cannot be invented),
  Params (READ_SIZE, MAX_KEYPRESS_SIZE, paste_threshold incl. None, with/without wake-up fd), state and agenda.

  THE LEDGER (`Took`): for one request, per source,
      (what the request returned) ++ (what the Input/OS still hold afterwards)
        = (what was held before) ++ (what the agenda items that fired during the request brought in)
  as LISTS (order preserved) for event_trigger events, threadsafe events, and bytes (`pend` = unprocessed ++ osbuf,
  `unget_bytes` included); as a multiset (`List.Perm`) for scheduled events (the request sorts them); as a count for
  SIGINT events; `lost` is what disappeared - only bytes can, and only when the request raises.
  `C08_exactly_once` is that statement for `send`.

  Each function of the model is described once, by how it ends: a relation indexed by the answer, so that a theorem
  about one kind of answer sees only the ends that give it.
      select      `Ran` (what fired meanwhile), `SelPost` (the state, by `rs[0]`)    `select_spec`
      waitLoop    `Waited`: a `Ran`, then a `WaitEnd`; `RemInv` for the deadline     `waitLoop_spec`
      findKey     an equation per case                                               `findKey_cases`
      pasteLoop   `Pasted`; one round: `pasteLoop_cases`                             `pasteLoop_spec`
      sendRead    `ReadEnd`; its one-keypress case is a `Decoded`                    `sendRead_end`
      afterWait   a `Pop`, or on to `sendRead`                                       `afterWait_cases`
      sendRest    a `Decoded` (a keypress was buffered), or a `Ran` then a `RestEnd` `sendRest_spec`
      send        a `Pop` (early return), or `NoPop` and on to `sendRest`            `send_cases`
  A `Decoded` or `ReadEnd` is `Answered` (`SameEvents` plus the byte clause), hence `Internal` (`Answered.internal`).
  Ledgers: `Internal` is a step of the main thread alone, `Grew` the environment alone (agenda items fire, nothing is
  taken out), `Took` a whole request (`Internal`s around a `Grew`: `Took.before`, `Took.andThen`), `Hist` many requests
  (`Took.hist`, `Hist.append`).  `IsUnit`, `Units` (a complete keypress, a concatenation of them) serve the
  input-level theorems.

  PARTIAL BY NATURE / ASSUMPTIONS: see the header of Model/Input.lean (GIL atomicity of list operations, signal
  timing, select fairness/order; preemption only inside select).
  KNOWN FINDINGS D15, D12, D35: when `find_key` raises (D15: the available bytes end inside a multi-byte keypress ->
  ValueError; D12: `get_key` itself raises UnicodeDecodeError on ESC-prefix + byte >= 0x80; D35: ... on ill-formed
  UTF-8 in mid-stream, e.g. c3 41) the bytes popped so far - in the paste branch the whole paste - are lost, valid
  ones included.  `C08_full_statement` (nothing is ever lost) is therefore false: `C08_D15_witness`,
  `C08_D12_witness`, `C08_D35_witness`.  `C08_exactly_once_partial` carries the complementary hypothesis: the request
  does not raise (every `find_key` of the request ends on a keypress boundary and `get_key` does not raise).
-/
import Curtsies.Model.Input
namespace Curtsies
open Curtsies.Input

variable {β κ : Type}

/-! ## ledgers

One letter per source, in `…Of` (one agenda item), `env…` (an agenda), `out…` (one answer), `log…` (many answers) and
as field names of the structures (`Took`, …, `Hist`): `q` the `event_trigger` queue (`queued`), `i` threadsafe events
(`interrupting`), `s` scheduled events, `g` the count of SIGINT events, `b` bytes, which are `u` (`unget_bytes`,
appended to `unprocessed`) then `a` (arrivals, appended to `osbuf`), `c` the clock. -/

def qOf : EnvAct β → List Ev | .trigger e => [e] | _ => []
def iOf : EnvAct β → List Ev | .tsAppend _ e => [e] | _ => []
def sOf : EnvAct β → List (Time × Ev) | .schedule t e => [(t, e)] | _ => []
def gOf (P : Params) : EnvAct β → Nat | .sigint => if P.hasWake then 1 else 0 | _ => 0
def aOf : EnvAct β → List β | .arrive bs => bs | _ => []
def uOf : EnvAct β → List β | .unget bs => bs | _ => []
def bOf : EnvAct β → List β | .arrive bs => bs | .unget bs => bs | _ => []
def envQ (ag : Agenda β) : List Ev := ag.flatMap fun x => qOf x.2
def envI (ag : Agenda β) : List Ev := ag.flatMap fun x => iOf x.2
def envS (ag : Agenda β) : List (Time × Ev) := ag.flatMap fun x => sOf x.2
def envG (P : Params) (ag : Agenda β) : Nat := (ag.map fun x => gOf P x.2).sum
def envB (ag : Agenda β) : List β := ag.flatMap fun x => bOf x.2

def pend (st : InSt β) : List β := st.unprocessed ++ st.osbuf

def outQ : Option (Out κ β) → List Ev | some (.queued e) => [e] | _ => []
def outI : Option (Out κ β) → List Ev | some (.interrupting e) => [e] | _ => []
def outS : Option (Out κ β) → List (Time × Ev) | some (.scheduled t e) => [(t, e)] | _ => []
def outG : Option (Out κ β) → Nat | some .sigint => 1 | _ => 0

def outB : Option (Out κ β) → List β
  | some (.key _ bs) => bs | some (.paste ks) => ks.flatMap (·.2) | _ => []

/-- THE LEDGER of one request -/
structure Took (P : Params) (st : InSt β) (fired : Agenda β) (out : Option (Out κ β)) (lost : List β)
    (st' : InSt β) : Prop where
  q : outQ out ++ st'.queued = st.queued ++ envQ fired
  i : outI out ++ st'.interrupting = st.interrupting ++ envI fired
  s : (outS out ++ st'.scheduled).Perm (st.scheduled ++ envS fired)
  g : outG out + st'.sigints = st.sigints + envG P fired
  b : lost ++ outB out ++ pend st' = pend st ++ envB fired
  c : st.clock ≤ st'.clock

/-- `Took` with nothing fired -/
structure Internal (x : InSt β) (out : Option (Out κ β)) (lost : List β) (y : InSt β) : Prop where
  q : outQ out ++ y.queued = x.queued
  i : outI out ++ y.interrupting = x.interrupting
  s : (outS out ++ y.scheduled).Perm x.scheduled
  g : outG out + y.sigints = x.sigints
  b : lost ++ outB out ++ pend y = pend x
  c : x.clock ≤ y.clock

structure Grew (P : Params) (st : InSt β) (fired : Agenda β) (st' : InSt β) : Prop where
  q : st'.queued = st.queued ++ envQ fired
  i : st'.interrupting = st.interrupting ++ envI fired
  s : st'.scheduled = st.scheduled ++ envS fired
  g : st'.sigints = st.sigints + envG P fired
  b : pend st' = pend st ++ envB fired
  c : st.clock ≤ st'.clock

theorem envQ_append (f g : Agenda β) : envQ (f ++ g) = envQ f ++ envQ g := List.flatMap_append
theorem envI_append (f g : Agenda β) : envI (f ++ g) = envI f ++ envI g := List.flatMap_append
theorem envS_append (f g : Agenda β) : envS (f ++ g) = envS f ++ envS g := List.flatMap_append
theorem envB_append (f g : Agenda β) : envB (f ++ g) = envB f ++ envB g := List.flatMap_append
theorem envG_append (P : Params) (f g : Agenda β) : envG P (f ++ g) = envG P f + envG P g := by simp [envG]

/-- two ledgers in a row: `x` is returned, `y` comes in, `a`, `b`, `c` are held before, between and after -/
theorem ledger_append {α : Type} {x1 x2 a b c y1 y2 : List α} (h1 : x1 ++ b = a ++ y1) (h2 : x2 ++ c = b ++ y2) :
    x1 ++ x2 ++ c = a ++ (y1 ++ y2) := by
  rw [List.append_assoc, h2, ← List.append_assoc, h1, List.append_assoc]

theorem ledger_append_perm {α : Type} {x1 x2 a b c y1 y2 : List α} (h1 : (x1 ++ b).Perm (a ++ y1))
    (h2 : (x2 ++ c).Perm (b ++ y2)) : (x1 ++ x2 ++ c).Perm (a ++ (y1 ++ y2)) := by
  rw [List.append_assoc, ← List.append_assoc a]
  exact (List.Perm.append_left _ h2).trans (by rw [← List.append_assoc]; exact List.Perm.append_right _ h1)

theorem Grew.refl (P : Params) (st : InSt β) : Grew P st [] st := by
  constructor <;> simp [envQ, envI, envS, envG, envB]

theorem Grew.trans {P : Params} {a b c : InSt β} {f1 f2 : Agenda β} (h1 : Grew P a f1 b) (h2 : Grew P b f2 c) :
    Grew P a (f1 ++ f2) c :=
  ⟨by rw [h2.q, h1.q, envQ_append, List.append_assoc],
   by rw [h2.i, h1.i, envI_append, List.append_assoc],
   by rw [h2.s, h1.s, envS_append, List.append_assoc],
   by rw [h2.g, h1.g, envG_append, Nat.add_assoc],
   by rw [h2.b, h1.b, envB_append, List.append_assoc],
   Nat.le_trans h1.c h2.c⟩

theorem Grew.clock {P : Params} {a b : InSt β} {f : Agenda β} (h : Grew P a f b) (k : Time) (hk : a.clock ≤ k) :
    Grew P a f { b with clock := max b.clock k } :=
  ⟨h.q, h.i, h.s, h.g, h.b, Nat.le_trans h.c (Nat.le_max_left _ _)⟩

theorem Grew.took {P : Params} {a b : InSt β} {f : Agenda β} (h : Grew P a f b) :
    Took (κ := κ) P a f none [] b :=
  ⟨by simp [outQ, h.q], by simp [outI, h.i], by simp [outS, h.s], by simp [outG, h.g], by simp [outB, h.b], h.c⟩

theorem Internal.took {P : Params} {a b : InSt β} {out : Option (Out κ β)} {lost : List β}
    (h : Internal a out lost b) : Took P a [] out lost b :=
  ⟨by simp [envQ, h.q], by simp [envI, h.i], by simpa [envS] using h.s, by simp [envG, h.g],
   by simp [envB, h.b], h.c⟩

theorem Internal.refl (st : InSt β) : Internal (κ := κ) st none [] st :=
  ⟨by simp [outQ], by simp [outI], by simp [outS], by simp [outG], by simp [outB], Nat.le_refl _⟩

theorem Took.comp {P : Params} {a b c : InSt β} {f f1 f2 : Agenda β} {out : Option (Out κ β)} {lost : List β}
    (h1 : Took (κ := κ) P a f1 none [] b) (h2 : Took P b f2 out lost c) (hf : f = f1 ++ f2) :
    Took P a f out lost c := by
  subst hf
  refine ⟨?_, ?_, ?_, ?_, ?_, Nat.le_trans h1.c h2.c⟩
  · rw [envQ_append]; exact ledger_append (x1 := []) h1.q h2.q
  · rw [envI_append]; exact ledger_append (x1 := []) h1.i h2.i
  · rw [envS_append]; exact ledger_append_perm (x1 := []) h1.s h2.s
  · have hg : b.sigints = a.sigints + envG P f1 := (Nat.zero_add _).symm.trans h1.g
    rw [envG_append, ← Nat.add_assoc, ← hg]
    exact h2.g
  · rw [envB_append]; exact ledger_append (x1 := []) h1.b h2.b

theorem Took.andThen {P : Params} {a b c : InSt β} {f : Agenda β} {out : Option (Out κ β)} {lost : List β}
    (h1 : Took (κ := κ) P a f none [] b) (h2 : Internal b out lost c) : Took P a f out lost c :=
  h1.comp h2.took (List.append_nil f).symm

theorem Took.before {P : Params} {a b c : InSt β} {f : Agenda β} {out : Option (Out κ β)} {lost : List β}
    (h1 : Internal (κ := κ) a none [] b) (h2 : Took P b f out lost c) : Took P a f out lost c :=
  h1.took.comp h2 rfl

/-! ## the environment -/

def isSpur : EnvAct β → Bool | .spurious => true | _ => false
def isSched : EnvAct β → Bool | .schedule _ _ => true | _ => false
def isUnget : EnvAct β → Bool | .unget _ => true | _ => false

structure Applied (P : Params) (x : EnvAct β) (st st' : InSt β) : Prop where
  q : st'.queued = st.queued ++ qOf x
  i : st'.interrupting = st.interrupting ++ iOf x
  s : st'.scheduled = st.scheduled ++ sOf x
  g : st'.sigints = st.sigints + gOf P x
  u : st'.unprocessed = st.unprocessed ++ uOf x
  a : st'.osbuf = st.osbuf ++ aOf x
  c : st'.clock = st.clock
  spur : st'.spurious = (st.spurious || isSpur x)

theorem applyEnv_eq (P : Params) (a : EnvAct β) (st : InSt β) : Applied P a st (applyEnv P a st) := by
  -- the eight fields as one conjunction: `simp` then runs once per case of `a`, not once per field
  suffices h : _ ∧ _ ∧ _ ∧ _ ∧ _ ∧ _ ∧ _ ∧ _ by
    obtain ⟨q, i, s, g, u, o, c, sp⟩ := h
    exact ⟨q, i, s, g, u, o, c, sp⟩
  cases a with
  | sigint | signal n =>
    -- with a wake-up fd the signal's byte lands there (and a SIGINT counts an event); without one nothing changes
    by_cases h : P.hasWake = true
    · simp [applyEnv, qOf, iOf, sOf, gOf, uOf, aOf, isSpur, h]
    · simp [applyEnv, qOf, iOf, sOf, gOf, uOf, aOf, isSpur, h]
  | _ => simp only [applyEnv, qOf, iOf, sOf, gOf, uOf, aOf, isSpur, List.append_nil, Nat.add_zero, Bool.or_false,
      Bool.or_true, and_self]

theorem bOf_eq (a : EnvAct β) : bOf a = uOf a ++ aOf a := by
  cases a <;> simp [bOf, uOf, aOf]

theorem uOf_nil {a : EnvAct β} (h : isUnget a = false) : uOf a = [] := by
  cases a with
  | unget bs => cases h
  | _ => rfl

theorem sOf_nil {a : EnvAct β} (h : isSched a = false) : sOf a = [] := by
  cases a with
  | schedule t e => cases h
  | _ => rfl

theorem envS_nil (f : Agenda β) (h : ∀ x ∈ f, isSched x.2 = false) : envS f = [] :=
  List.flatMap_eq_nil_iff.mpr fun x hx => sOf_nil (h x hx)

/-- `unget_bytes` appends behind the bytes already read: an append to `pend` unless the OS buffer holds something -/
theorem applyEnv_pend (P : Params) (a : EnvAct β) (st : InSt β) (h : st.osbuf = [] ∨ isUnget a = false) :
    pend (applyEnv P a st) = pend st ++ bOf a := by
  have e := applyEnv_eq P a st
  rw [pend, pend, e.u, e.a, bOf_eq]
  rcases h with h | h
  · rw [h, List.nil_append, List.append_nil, List.append_assoc]
  · rw [uOf_nil h, List.nil_append, List.append_nil, List.append_assoc]

theorem applyEnv_grew (P : Params) (a : EnvAct β) (st : InSt β) (t : Time) (h : st.osbuf = [] ∨ isUnget a = false) :
    Grew P st [(t, a)] (applyEnv P a st) := by
  have e := applyEnv_eq P a st
  exact ⟨by simpa [envQ] using e.q, by simpa [envI] using e.i, by simpa [envS] using e.s, by simpa [envG] using e.g,
    by simpa [envB] using applyEnv_pend P a st h, Nat.le_of_eq e.c.symm⟩

/-! ## the queues a request pops from -/

theorem insertSched_perm (x : Time × Ev) (l : List (Time × Ev)) : (insertSched x l).Perm (x :: l) := by
  induction l with
  | nil => exact List.Perm.refl _
  | cons y ys ih =>
    unfold insertSched
    split
    · exact List.Perm.refl _
    · exact (List.Perm.cons y ih).trans (List.Perm.swap x y ys)

theorem sortSched_perm (l : List (Time × Ev)) : (sortSched l).Perm l := by
  induction l with
  | nil => exact List.Perm.refl _
  | cons x xs ih => exact (insertSched_perm x _).trans (List.Perm.cons x ih)

def SortedW : List (Time × Ev) → Prop
  | [] => True
  | x :: xs => (∀ y ∈ xs, x.1 ≤ y.1) ∧ SortedW xs

theorem insertSched_sorted (x : Time × Ev) (l : List (Time × Ev)) (h : SortedW l) : SortedW (insertSched x l) := by
  induction l with
  | nil => exact ⟨by simp, trivial⟩
  | cons y ys ih =>
    unfold insertSched
    split
    · rename_i hle
      exact ⟨List.forall_mem_cons.mpr ⟨hle, fun z hz => Nat.le_trans hle (h.1 z hz)⟩, h⟩
    · rename_i hle
      have hx : ∀ z ∈ x :: ys, y.1 ≤ z.1 := List.forall_mem_cons.mpr ⟨Nat.le_of_lt (Nat.lt_of_not_le hle), h.1⟩
      exact ⟨fun z hz => hx z ((insertSched_perm x ys).mem_iff.mp hz), ih h.2⟩

theorem sortSched_sorted (l : List (Time × Ev)) : SortedW (sortSched l) := by
  induction l with
  | nil => trivial
  | cons x xs ih => exact insertSched_sorted x _ ih

theorem insertSched_stable (t : Time) (x : Time × Ev) (l : List (Time × Ev)) :
    (insertSched x l).filter (fun p => p.1 == t) = (x :: l).filter (fun p => p.1 == t) := by
  induction l with
  | nil => rfl
  | cons y ys ih =>
    unfold insertSched
    split
    · rfl
    · rename_i hle
      have hlt : y.1 < x.1 := Nat.lt_of_not_le hle
      rw [List.filter_cons, ih]
      by_cases hx : x.1 = t
      · have hy : ¬ y.1 = t := by intro e; rw [e, hx] at hlt; exact Nat.lt_irrefl _ hlt
        simp [hx, hy]
      · simp [List.filter_cons, hx]

theorem sortSched_stable (t : Time) (l : List (Time × Ev)) :
    (sortSched l).filter (fun p => p.1 == t) = l.filter (fun p => p.1 == t) := by
  induction l with
  | nil => rfl
  | cons x xs ih =>
    show (insertSched x (sortSched xs)).filter _ = _
    rw [insertSched_stable t x]
    simp [List.filter_cons, ih]

/-- `self.queued_scheduled_events.sort(...)` as a step -/
def sorted (st : InSt β) : InSt β := { st with scheduled := sortSched st.scheduled }

theorem sorted_internal (st : InSt β) : Internal (κ := κ) st none [] (sorted st) :=
  ⟨by simp [outQ, sorted], by simp [outI, sorted], by simpa [outS, sorted] using sortSched_perm st.scheduled,
   by simp [outG, sorted], by simp [outB, pend, sorted], Nat.le_refl _⟩

theorem sorted_of_nil {st : InSt β} (h : sortSched st.scheduled = []) : sorted st = st := by
  have h0 : st.scheduled = [] := (h ▸ sortSched_perm st.scheduled).symm.eq_nil
  rw [sorted, h, ← h0]

/-- one event leaves its queue -/
inductive Pop (st : InSt β) : Out κ β → InSt β → Prop
  | sigint : st.sigints > 0 → Pop st .sigint { st with sigints := st.sigints - 1 }
  | queued {e : Ev} {q : List Ev} : st.queued = e :: q → Pop st (.queued e) { st with queued := q }
  | intr {e : Ev} {q : List Ev} : st.interrupting = e :: q → Pop st (.interrupting e) { st with interrupting := q }
  | due {w : Time} {e : Ev} {srest : List (Time × Ev)} : sortSched st.scheduled = (w, e) :: srest → w < st.clock →
      Pop st (.scheduled w e) { st with scheduled := srest }

theorem Pop.internal {st st' : InSt β} {ev : Out κ β} (h : Pop st ev st') : Internal st (some ev) [] st' := by
  cases h with
  | sigint hg => exact ⟨rfl, rfl, .refl _, Nat.add_sub_of_le hg, rfl, Nat.le_refl _⟩
  | queued hq => exact ⟨hq.symm, rfl, .refl _, Nat.zero_add _, rfl, Nat.le_refl _⟩
  | intr hi => exact ⟨rfl, hi.symm, .refl _, Nat.zero_add _, rfl, Nat.le_refl _⟩
  | due hso _ =>
    exact ⟨rfl, rfl, show ((_, _) :: _).Perm _ from hso ▸ sortSched_perm st.scheduled, Nat.zero_add _, rfl, Nat.le_refl _⟩

theorem Pop.clock {st st' : InSt β} {ev : Out κ β} (h : Pop st ev st') : st'.clock = st.clock := by
  cases h <;> rfl

/-! ## `select` and the wait -/

/-- bound on the rounds the wait loop can still make: each consumes a wake-up or pipe byte, and an agenda item brings
    in at most PIPE_WRITE of them -/
def waitMeasure (st : InSt β) (ag : Agenda β) : Nat := st.wake.length + st.pipes.sum + PIPE_WRITE * ag.length

theorem addAt_sum_le (l : List Nat) (p n : Nat) : (addAt l p n).sum ≤ l.sum + n := by
  induction l generalizing p with
  | nil => simp [addAt]
  | cons x xs ih =>
    cases p with
    | zero =>
      simp [addAt]
      omega
    | succ p =>
      have := ih p
      simp [addAt]
      omega

theorem applyEnv_measure (P : Params) (a : EnvAct β) (st : InSt β) :
    (applyEnv P a st).wake.length + (applyEnv P a st).pipes.sum ≤ st.wake.length + st.pipes.sum + PIPE_WRITE := by
  cases a with
  | tsWrite p =>
    have := addAt_sum_le st.pipes p PIPE_WRITE
    show st.wake.length + (addAt st.pipes p PIPE_WRITE).sum ≤ _
    omega
  | sigint | signal n =>
    by_cases h : P.hasWake = true
    · simp [applyEnv, h, PIPE_WRITE]  -- one more wake-up byte
      omega
    · simp [applyEnv, h]
  | _ => exact Nat.le_add_right _ _

/-- a silent run of the wait: `fired` ran inside `select`, the main thread only read wake-up and pipe bytes off -/
structure Ran (P : Params) (st : InSt β) (ag fired : Agenda β) (st' : InSt β) (ag' : Agenda β) : Prop where
  split : ag = fired ++ ag'
  grew : Grew P st fired st'
  spur : st'.spurious = (st.spurious || fired.any fun x => isSpur x.2)
  measure : waitMeasure st' ag' ≤ waitMeasure st ag
  /-- with stdin readable `select` returns at once (for `sendRest_prompt`) -/
  still : st.osbuf ≠ [] → fired = [] ∧ st' = st

theorem Ran.quiet {P : Params} {st st' : InSt β} {ag fired ag' : Agenda β} (h : Ran P st ag fired st' ag')
    (hz : st.spurious = false) (hq : ∀ x ∈ ag, isSpur x.2 = false) : st'.spurious = false := by
  rw [h.spur, hz, Bool.false_or]
  exact List.any_eq_false.mpr fun x hx => by simpa using hq x (h.split ▸ List.mem_append_left _ hx)

theorem Ran.refl (P : Params) (st : InSt β) (ag : Agenda β) : Ran P st ag [] st ag :=
  ⟨rfl, Grew.refl P st, by simp, Nat.le_refl _, fun _ => ⟨rfl, rfl⟩⟩

theorem Ran.trans {P : Params} {a b c : InSt β} {ag ag1 ag2 f1 f2 : Agenda β}
    (h1 : Ran P a ag f1 b ag1) (h2 : Ran P b ag1 f2 c ag2) : Ran P a ag (f1 ++ f2) c ag2 :=
  ⟨by rw [h1.split, h2.split, List.append_assoc], h1.grew.trans h2.grew,
   by rw [h2.spur, h1.spur, List.any_append, Bool.or_assoc], Nat.le_trans h2.measure h1.measure, fun ho => by
    obtain ⟨rfl, rfl⟩ := h1.still ho
    exact h2.still ho⟩

/-- a step of the main thread alone inside the wait: a byte read off `wake` or `pipes`, or `select` timing out (`clock`) -/
theorem Ran.idle (P : Params) (st : InSt β) (ag : Agenda β) (w p : List Nat) (c : Time) (ho : st.osbuf = [])
    (hc : st.clock ≤ c) (hm : w.length + p.sum ≤ st.wake.length + st.pipes.sum) :
    Ran P st ag [] { st with wake := w, pipes := p, clock := c } ag :=
  have g := Grew.refl P st
  -- `Grew` rebuilt field by field: the states differ only in `wake`, `pipes`, `clock`, which `q`…`b` do not read
  ⟨rfl, ⟨g.q, g.i, g.s, g.g, g.b, hc⟩, by simp, by simp only [waitMeasure]; omega, fun h => absurd ho h⟩

theorem Ran.env (P : Params) (st : InSt β) (t : Time) (a : EnvAct β) (rest : Agenda β) (ho : st.osbuf = []) :
    Ran P st ((t, a) :: rest) [(t, a)] (applyEnv P a { st with clock := max st.clock t }) rest := by
  have hm := applyEnv_measure P a { st with clock := max st.clock t }
  refine ⟨rfl, ?_, by simp [(applyEnv_eq P a _).spur], ?_, fun h => absurd ho h⟩
  · have g := applyEnv_grew P a { st with clock := max st.clock t } t (.inl ho)
    exact ⟨g.q, g.i, g.s, g.g, g.b, Nat.le_trans (Nat.le_max_left _ t) g.c⟩
  · simp only [waitMeasure, List.length_cons, PIPE_WRITE] at hm ⊢
    omega

theorem Ran.wakeRead (P : Params) {st : InSt β} {n : Nat} {rest : List Nat} (h : st.osbuf = [] ∧ st.wake = n :: rest)
    (ag : Agenda β) :
    Ran P st ag [] { st with wake := rest } ag ∧ waitMeasure { st with wake := rest } ag < waitMeasure st ag :=
  ⟨Ran.idle P st ag rest st.pipes st.clock h.1 (Nat.le_refl _) (by simp [h.2]), by simp [waitMeasure, h.2]⟩

theorem firstPipe_sub (l : List Nat) (k i n : Nat) (hn : n > 0) (h : firstPipe l k = some i) :
    k ≤ i ∧ (subAt l (i - k) n).sum < l.sum := by
  induction l generalizing k with
  | nil => simp [firstPipe] at h
  | cons x xs ih =>
    unfold firstPipe at h
    split at h
    · rename_i hx
      simp only [Option.some.injEq] at h
      subst h
      simp [subAt]
      omega
    · obtain ⟨h1, h2⟩ := ih (k + 1) h
      have e : i - k = (i - (k + 1)) + 1 := by omega
      refine ⟨by omega, ?_⟩
      rw [e]
      simp [subAt]
      omega

theorem firstPipe_none (l : List Nat) (k : Nat) (h : firstPipe l k = none) : ∀ n ∈ l, n = 0 := by
  induction l generalizing k with
  | nil => nofun
  | cons x xs ih =>
    unfold firstPipe at h
    by_cases hx : x > 0
    · rw [if_pos hx] at h; cases h
    · rw [if_neg hx] at h
      exact List.forall_mem_cons.mpr ⟨Nat.eq_zero_of_not_pos hx, ih (k + 1) h⟩

theorem Ran.pipeRead (P : Params) {st : InSt β} {i : Nat} (h : st.osbuf = [] ∧ firstPipe st.pipes 0 = some i)
    (ag : Agenda β) :
    Ran P st ag [] { st with pipes := subAt st.pipes i PIPE_READ } ag ∧
      waitMeasure { st with pipes := subAt st.pipes i PIPE_READ } ag < waitMeasure st ag := by
  have := (firstPipe_sub st.pipes 0 i PIPE_READ (by decide) h.2).2
  simp only [Nat.sub_zero] at this
  exact ⟨Ran.idle P st ag st.wake _ st.clock h.1 (Nat.le_refl _) (by omega), by simp only [waitMeasure]; omega⟩

theorem firstReady_none (P : Params) (st : InSt β) (h : firstReady P st = none) :
    st.osbuf = [] ∧ firstPipe st.pipes 0 = none := by
  unfold firstReady at h
  split at h
  · cases h
  · rename_i h2
    simp at h2
    refine ⟨h2.1, ?_⟩
    split at h
    · cases h
    · exact Option.map_eq_none_iff.mp h

/-- the state `select` returns with, by `rs[0]` (stdin comes first: another descriptor means stdin has nothing) -/
def SelPost (P : Params) (dl : Option Time) (st' : InSt β) : Sel → Prop
  | .blocked => firstReady P st' = none
  | .timeout => firstReady P st' = none ∧ ∃ d, dl = some d ∧ d ≤ st'.clock
  | .stdin => st'.osbuf ≠ [] ∨ st'.spurious = true
  | .wake n rest => st'.osbuf = [] ∧ st'.wake = n :: rest
  | .pipe i => st'.osbuf = [] ∧ firstPipe st'.pipes 0 = some i

theorem SelPost_blocked {P : Params} {dl : Option Time} {st' : InSt β} :
    SelPost P dl st' .blocked ↔ firstReady P st' = none := Iff.rfl
theorem SelPost_timeout {P : Params} {dl : Option Time} {st' : InSt β} :
    SelPost P dl st' .timeout ↔ firstReady P st' = none ∧ ∃ d, dl = some d ∧ d ≤ st'.clock := Iff.rfl
theorem SelPost_stdin {P : Params} {dl : Option Time} {st' : InSt β} :
    SelPost P dl st' .stdin ↔ st'.osbuf ≠ [] ∨ st'.spurious = true := Iff.rfl
theorem SelPost_wake {P : Params} {dl : Option Time} {st' : InSt β} {n : Nat} {rest : List Nat} :
    SelPost P dl st' (.wake n rest) ↔ st'.osbuf = [] ∧ st'.wake = n :: rest := Iff.rfl
theorem SelPost_pipe {P : Params} {dl : Option Time} {st' : InSt β} {i : Nat} :
    SelPost P dl st' (.pipe i) ↔ st'.osbuf = [] ∧ firstPipe st'.pipes 0 = some i := Iff.rfl

theorem firstReady_post (P : Params) (dl : Option Time) (st : InSt β) (r : Sel) (h : firstReady P st = some r) :
    SelPost P dl st r := by
  unfold firstReady at h
  split at h
  · rename_i hc
    cases h
    exact SelPost_stdin.mpr (by simpa using hc)
  · rename_i hc
    simp at hc
    split at h
    · rename_i hw
      cases h
      exact SelPost_wake.mpr ⟨hc.1, by simpa using hw⟩
    · obtain ⟨i, hp, rfl⟩ := Option.map_eq_some_iff.mp h
      exact SelPost_pipe.mpr ⟨hc.1, hp⟩

theorem select_spec {P : Params} {dl : Option Time} {st st' : InSt β} {ag ag' : Agenda β} {r : Sel}
    (h : select P dl st ag = (r, st', ag')) : ∃ fired, Ran P st ag fired st' ag' ∧ SelPost P dl st' r := by
  -- `case1`…`case6`: the leaves of `select`'s matches, in the model's order
  fun_induction select P dl st ag with
  | case1 st ag r' hr =>  -- a descriptor is ready
    cases h
    exact ⟨[], Ran.refl P _ _, firstReady_post P _ _ _ hr⟩
  | case2 st hn hd =>  -- nothing is ready, nothing is left to fire, no deadline
    cases h
    exact ⟨[], Ran.refl P _ [], SelPost_blocked.mpr hn⟩
  | case3 st hn d hd | case6 st hn t a rest d hd hle =>  -- the deadline passes before anything else fires
    cases h
    exact ⟨[], Ran.idle P st _ st.wake st.pipes _ (firstReady_none P st hn).1 (Nat.le_max_left _ _) (Nat.le_refl _),
      SelPost_timeout.mpr ⟨hn, d, hd, Nat.le_max_right _ _⟩⟩
  | case4 st hn t a rest hd ih | case5 st hn t a rest d hd hle ih =>  -- the next item fires
    subst hd
    obtain ⟨f, hr, hp⟩ := ih h
    exact ⟨(t, a) :: f, (Ran.env P st t a rest (firstReady_none P st hn).1).trans hr, hp⟩

/-- the deadline `select` is given is never before the original one, `t0 + timeout` -/
def RemInv (timeout : Option Time) (t0 : Time) (remaining : Option Time) (clock : Time) : Prop :=
  ∀ d, remaining.map (clock + ·) = some d → ∃ T, timeout = some T ∧ t0 + T ≤ d

theorem RemInv.init (tuc : Option Time) (c : Time) : RemInv tuc c tuc c := by
  intro d hd
  cases tuc with
  | none => cases hd
  | some T => exact ⟨T, rfl, Nat.le_of_eq (Option.some.inj hd)⟩

theorem RemInv.recompute (timeout : Option Time) (t0 clock : Time) :
    RemInv timeout t0 (recompute timeout t0 clock) clock := by
  intro d hd
  cases timeout with
  | none => cases hd
  | some T =>
    exact ⟨T, rfl, (by omega : ∀ a b c : Nat, b + (a - b) = c → a ≤ c) _ _ _ (Option.some.inj hd)⟩

theorem RemInv.mono {timeout : Option Time} {t0 : Time} {remaining : Option Time} {c c' : Time}
    (h : RemInv timeout t0 remaining c) (hc : c ≤ c') : RemInv timeout t0 remaining c' := by
  intro d hd
  cases remaining with
  | none => cases hd
  | some r =>
    obtain ⟨T, h1, h2⟩ := h (c + r) rfl
    exact ⟨T, h1, (by omega : ∀ a c c' r d : Nat, a ≤ c + r → c ≤ c' → c' + r = d → a ≤ d) _ _ _ _ _ h2 hc
      (Option.some.inj hd)⟩

def evOf : Except Fail (Bool × Option (Out κ β)) → Option (Out κ β)
  | .ok (_, o) => o | .error _ => none

/-- how the wait ends, from the state `mid` of its last round -/
inductive WaitEnd (P : Params) (mid : InSt β) : Except Fail (Bool × Option (Out κ β)) → InSt β → Prop
  | fuel : WaitEnd P mid (.error .outOfFuel) mid
  | blocked : firstReady P mid = none → WaitEnd P mid (.error .blockedForever) mid
  | timeout : firstReady P mid = none → WaitEnd P mid (.ok (false, none)) mid
  | stdin : mid.osbuf ≠ [] ∨ mid.spurious = true → WaitEnd P mid (.ok (true, none)) mid
  | pop {ev : Out κ β} {st' : InSt β} : Pop mid ev st' → WaitEnd P mid (.ok (false, some ev)) st'

theorem WaitEnd.internal {P : Params} {mid st' : InSt β} {res : Except Fail (Bool × Option (Out κ β))}
    (h : WaitEnd P mid res st') : Internal mid (evOf res) [] st' := by
  cases h with
  | pop hp => exact hp.internal
  | _ => exact Internal.refl mid

/-- the answer `x` of the wait loop entered with fuel `f` and `remaining_timeout = remaining` -/
structure Waited (P : Params) (timeout : Option Time) (t0 : Time) (f : Nat) (remaining : Option Time) (st : InSt β)
    (ag : Agenda β) (x : Except Fail (Bool × Option (Out κ β)) × InSt β × Agenda β) : Prop where
  run : ∃ fired mid, Ran P st ag fired mid x.2.2 ∧ WaitEnd P mid x.1 x.2.1
  enough : waitMeasure st ag < f → x.1 ≠ .error .outOfFuel
  /-- `(False, None)` comes only after the original deadline `t0 + timeout` -/
  late : RemInv timeout t0 remaining st.clock → x.1 = .ok (false, none) → ∃ T, timeout = some T ∧ t0 + T ≤ x.2.1.clock

theorem Waited.again {P : Params} {timeout remaining rem2 : Option Time} {t0 : Time} {f : Nat} {st st1 st2 : InSt β}
    {ag ag1 fi : Agenda β} {x : Except Fail (Bool × Option (Out κ β)) × InSt β × Agenda β}
    (ih : Waited P timeout t0 f rem2 st2 ag1 x) (hr : Ran P st ag fi st1 ag1)
    (h2 : Ran P st1 ag1 [] st2 ag1 ∧ waitMeasure st2 ag1 < waitMeasure st1 ag1)
    (hrem : RemInv timeout t0 remaining st.clock → RemInv timeout t0 rem2 st2.clock) :
    Waited P timeout t0 (f + 1) remaining st ag x := by
  obtain ⟨⟨f2, mid, hr2, he⟩, hfu, hto⟩ := ih
  exact ⟨⟨fi ++ f2, mid, by simpa using (hr.trans h2.1).trans hr2, he⟩,
    fun h => hfu (by have := hr.measure; have := h2.2; omega), fun hinv => hto (hrem hinv)⟩

theorem waitLoop_spec (P : Params) (timeout : Option Time) (t0 : Time) (f : Nat) (remaining : Option Time)
    (st : InSt β) (ag : Agenda β) :
    Waited P timeout t0 f remaining st ag (waitLoop (κ := κ) P timeout t0 f remaining st ag) := by
  -- `case1`…`case9`: the leaves of `waitLoop`, in the model's order
  fun_induction waitLoop (κ := κ) P timeout t0 f remaining st ag with
  | case1 x st ag => exact ⟨⟨[], st, Ran.refl P st ag, .fuel⟩, fun h => by omega, nofun⟩
  | case2 f remaining st ag st1 ag1 hs =>
    obtain ⟨fi, hr, hb⟩ := select_spec hs
    exact ⟨⟨fi, st1, hr, .blocked (SelPost_blocked.mp hb)⟩, nofun, nofun⟩
  | case3 f remaining st ag st1 ag1 hs =>
    obtain ⟨fi, hr, hp⟩ := select_spec hs
    obtain ⟨hidle, d, hd, hle⟩ := SelPost_timeout.mp hp
    exact ⟨⟨fi, st1, hr, .timeout hidle⟩, nofun,
      fun hinv _ => (hinv _ hd).imp fun T h => ⟨h.1, Nat.le_trans h.2 hle⟩⟩
  | case4 f remaining st ag st1 ag1 hs =>
    obtain ⟨fi, hr, hp⟩ := select_spec hs
    exact ⟨⟨fi, st1, hr, .stdin (SelPost_stdin.mp hp)⟩, nofun, nofun⟩
  | case5 f remaining st ag n rest st1 ag1 hs st2 hn hg =>  -- a SIGINT's wake-up byte, its event is pending
    obtain ⟨fi, hr, hw⟩ := select_spec hs
    have hr2 := hr.trans (Ran.wakeRead P (SelPost_wake.mp hw) ag1).1
    exact ⟨⟨fi, st2, by simpa using hr2, .pop (.sigint hg)⟩, nofun, nofun⟩
  | case6 f remaining st ag n rest st1 ag1 hs st2 hn hg ih =>  -- a SIGINT's wake-up byte and no event: next round
    obtain ⟨fi, hr, hw⟩ := select_spec hs
    exact ih.again hr (Ran.wakeRead P (SelPost_wake.mp hw) ag1) fun _ => RemInv.recompute timeout t0 st2.clock
  | case7 f remaining st ag n rest st1 ag1 hs st2 hn ih =>  -- another signal's byte: next round, `remaining` as it was
    obtain ⟨fi, hr, hw⟩ := select_spec hs
    exact ih.again hr (Ran.wakeRead P (SelPost_wake.mp hw) ag1) fun hinv => hinv.mono hr.grew.c
  | case8 f remaining st ag i st1 ag1 hs st2 e q he =>  -- a pipe byte, an interrupting event is pending
    obtain ⟨fi, hr, hw⟩ := select_spec hs
    have hr2 := hr.trans (Ran.pipeRead P (SelPost_pipe.mp hw) ag1).1
    exact ⟨⟨fi, st2, by simpa using hr2, .pop (.intr he)⟩, nofun, nofun⟩
  | case9 f remaining st ag i st1 ag1 hs st2 he ih =>  -- a pipe byte and no event: next round
    obtain ⟨fi, hr, hw⟩ := select_spec hs
    exact ih.again hr (Ran.pipeRead P (SelPost_pipe.mp hw) ag1) fun _ => RemInv.recompute timeout t0 st2.clock

/-- The blocking wait itself (`_wait_for_read_ready_or_timeout`): every agenda item that fires while the request is
    blocked lands in its queue; the only things taken out are the returned interrupting event / SIGINT event. -/
theorem C08_wait_exactly_once (P : Params) (timeout : Option Time) (t0 : Time) (f : Nat) (remaining : Option Time)
    (st : InSt β) (ag : Agenda β) :
    ∃ fired, ag = fired ++ (waitLoop (κ := κ) P timeout t0 f remaining st ag).2.2 ∧
      Took P st fired (evOf (waitLoop (κ := κ) P timeout t0 f remaining st ag).1) []
        (waitLoop (κ := κ) P timeout t0 f remaining st ag).2.1 := by
  obtain ⟨fired, mid, hr, he⟩ := (waitLoop_spec (κ := κ) P timeout t0 f remaining st ag).run
  exact ⟨fired, hr.split, hr.grew.took.andThen he.internal⟩

section Send

variable (P : Params) (gk : List Nat → Bool → Except PyErr (Option κ)) (val : β → Nat)

/-- names for the rest of a result triple whose answer `r` is known (the `…_spec` lemmas take `x = (r, st', ag')`) -/
theorem triple_of_fst {A B C : Type} {x : A × B × C} {r : A} (h : x.1 = r) : ∃ b c, x = (r, b, c) :=
  ⟨x.2.1, x.2.2, h ▸ rfl⟩

/-! ## the byte path -/

theorem unprocessed_self {st : InSt β} {u : List β} (h : st.unprocessed = u) : { st with unprocessed := u } = st := by
  subst h; rfl

/-- `p` is what this call pops; `cur` (`current_bytes`) is general for the induction, the callers take `[]` -/
theorem findKey_spec (u cur : List β) :
    ∃ p, (findKey gk val u cur).2.1 = cur ++ p ∧ p ++ (findKey gk val u cur).2.2 = u ∧ (u ≠ [] → p ≠ []) ∧
      ((findKey gk val u cur).1 = .ok none → u = [] ∧ cur = []) := by
  induction u generalizing cur with
  | nil => unfold findKey; split <;> exact ⟨[], by simp_all⟩
  | cons b rest ih =>
    unfold findKey
    simp only []
    split
    · exact ⟨[b], by simp⟩
    · exact ⟨[b], by simp⟩
    · obtain ⟨p, h1, h2, -, h4⟩ := ih (cur ++ [b])
      exact ⟨b :: p, by simp [h1], by simp [h2], by simp, fun h => by simpa using (h4 h).2⟩

/-- the split every caller of `find_key()` makes; on a non-empty buffer the answer is never `None` -/
theorem findKey_cases (u : List β) :
    (u = [] ∧ findKey gk val u [] = (.ok none, [], [])) ∨
    ∃ r used rest, findKey gk val u [] = (r, used, rest) ∧ used ++ rest = u ∧ used ≠ [] ∧
      ((∃ k, r = .ok (some k)) ∨ ∃ e, r = .error e) := by
  by_cases hu : u = []
  · subst hu
    exact .inl ⟨rfl, rfl⟩
  · obtain ⟨p, h1, h2, h3, h4⟩ := findKey_spec gk val u []
    generalize findKey gk val u [] = fk at *
    obtain ⟨r, used, rest⟩ := fk
    simp only [List.nil_append] at h1 h2 h4
    subst h1
    refine .inr ⟨r, used, rest, rfl, h2, h3 hu, ?_⟩
    match r, h4 with
    | .ok none, h4 => exact absurd (h4 rfl).1 hu
    | .ok (some k), _ => exact .inl ⟨k, rfl⟩
    | .error e, _ => exact .inr ⟨e, rfl⟩

/-- `find_key`: the bytes popped and the bytes left are exactly the buffer, in order; `None` only on an empty buffer
    (so a request only ever waits with nothing buffered). -/
theorem C08_find_key_exact (gk : List Nat → Bool → Except PyErr (Option κ)) (val : β → Nat) (u : List β) :
    (findKey gk val u []).2.1 ++ (findKey gk val u []).2.2 = u ∧
    ((findKey gk val u []).1 = .ok none → u = []) := by
  obtain ⟨p, h1, h2, -, h4⟩ := findKey_spec gk val u []
  exact ⟨by rw [h1]; exact h2, fun h => (h4 h).1⟩

def resOut : Except Fail (Option (Out κ β)) → Option (Out κ β)
  | .ok o => o | .error _ => none

/-- the fields a main-thread byte step never touches -/
structure SameEvents (x y : InSt β) : Prop where
  q : y.queued = x.queued
  i : y.interrupting = x.interrupting
  s : y.scheduled = x.scheduled
  g : y.sigints = x.sigints
  c : y.clock = x.clock

theorem SameEvents.refl (st : InSt β) : SameEvents st st := ⟨rfl, rfl, rfl, rfl, rfl⟩

theorem SameEvents.trans {x y z : InSt β} (h1 : SameEvents x y) (h2 : SameEvents y z) : SameEvents x z :=
  ⟨h2.q.trans h1.q, h2.i.trans h1.i, h2.s.trans h1.s, h2.g.trans h1.g, h2.c.trans h1.c⟩

/-- the answers the byte path can give -/
inductive ByteRes : Except Fail (Option (Out κ β)) → Prop
  | empty : ByteRes (.ok none)
  | key (k : κ) (bs : List β) : ByteRes (.ok (some (.key k bs)))
  | paste (ks : List (κ × List β)) : ByteRes (.ok (some (.paste ks)))
  | raise (e : PyErr) : ByteRes (.error (.py e))

theorem ByteRes.not_blocked {r : Except Fail (Option (Out κ β))} (h : ByteRes r) : r ≠ .error .blockedForever := by
  rintro rfl
  cases h

/-- the byte path answers `r` from `x` and leaves `y`; only a raise loses bytes -/
structure Answered (x : InSt β) (r : Except Fail (Option (Out κ β))) (y : InSt β) : Prop where
  res : ByteRes r
  same : SameEvents x y
  b : ∃ lost, lost ++ outB (resOut r) ++ pend y = pend x ∧ ∀ o, r = .ok o → lost = []

theorem Answered.internal {x y : InSt β} {r : Except Fail (Option (Out κ β))} (h : Answered x r y) :
    ∃ lost, Internal x (resOut r) lost y ∧ ∀ o, r = .ok o → lost = [] := by
  obtain ⟨h1, h2, h3, h4⟩ :
      outQ (resOut r) = [] ∧ outI (resOut r) = [] ∧ outS (resOut r) = [] ∧ outG (resOut r) = 0 := by
    cases h.res <;> exact ⟨rfl, rfl, rfl, rfl⟩
  obtain ⟨q, i, s, g, c⟩ := h.same
  exact h.b.imp fun _ hb => ⟨⟨by rw [h1, q, List.nil_append], by rw [h2, i, List.nil_append],
    by rw [h3, s]; exact List.Perm.refl _, by rw [h4, g, Nat.zero_add], hb.1, Nat.le_of_eq c.symm⟩, hb.2⟩

theorem findKey_same (st : InSt β) {used rest : List β} (h : used ++ rest = st.unprocessed) :
    SameEvents st { st with unprocessed := rest } ∧ used ++ pend { st with unprocessed := rest } = pend st :=
  ⟨⟨rfl, rfl, rfl, rfl, rfl⟩, by simp only [pend, ← h, List.append_assoc]⟩

theorem read_same (st : InSt β) : SameEvents st (nonblockingRead P st).2 ∧ pend (nonblockingRead P st).2 = pend st :=
  ⟨⟨rfl, rfl, rfl, rfl, rfl⟩, by simp [nonblockingRead, pend]⟩

theorem read_internal (P : Params) (st : InSt β) : Internal (κ := κ) st none [] (nonblockingRead P st).2 :=
  ⟨rfl, rfl, .refl _, Nat.zero_add _, (read_same P st).2, Nat.le_refl _⟩

theorem read_zero (st : InSt β) (hr : P.readSize > 0) (h : (nonblockingRead P st).1 = 0) : st.osbuf = [] :=
  (List.take_eq_nil_iff.mp (List.eq_nil_of_length_eq_zero h)).resolve_left (Nat.ne_of_gt hr)

/-- `e = find_key()` on a non-empty buffer: a keypress, or it raises -/
inductive Decoded (s : InSt β) : Except Fail (Option (Out κ β)) → InSt β → Prop
  | key {k : κ} {used rest : List β} : findKey gk val s.unprocessed [] = (.ok (some k), used, rest) →
      used ++ rest = s.unprocessed → Decoded s (.ok (some (.key k used))) { s with unprocessed := rest }
  | raise {e : PyErr} {used rest : List β} : findKey gk val s.unprocessed [] = (.error e, used, rest) →
      used ++ rest = s.unprocessed → used ≠ [] → Decoded s (.error (.py e)) { s with unprocessed := rest }

variable {gk} {val} in
theorem Decoded.answered {s s' : InSt β} {r : Except Fail (Option (Out κ β))} (h : Decoded gk val s r s') :
    Answered s r s' := by
  cases h with
  | key _ hs => exact ⟨.key _ _, (findKey_same s hs).1, [], (findKey_same s hs).2, fun _ _ => rfl⟩
  | raise _ hs _ => exact ⟨.raise _, (findKey_same s hs).1, _, by simpa [resOut, outB] using (findKey_same s hs).2, nofun⟩

/-- `if len(self.unprocessed_bytes) < MAX_KEYPRESS_SIZE: self._nonblocking_read()` -/
def topUp (P : Params) (st : InSt β) : InSt β :=
  if st.unprocessed.length < P.maxKey then (nonblockingRead P st).2 else st

theorem topUp_def (st : InSt β) :
    (if st.unprocessed.length < P.maxKey then (nonblockingRead P st).2 else st) = topUp P st := rfl

theorem topUp_same (st : InSt β) : SameEvents st (topUp P st) ∧ pend (topUp P st) = pend st := by
  unfold topUp
  by_cases h : st.unprocessed.length < P.maxKey
  · rw [if_pos h]; exact read_same P st
  · rw [if_neg h]; exact ⟨SameEvents.refl st, rfl⟩

/-- an empty buffer after the top-up: it did read, and found the OS buffer empty -/
theorem topUp_drained (st : InSt β) (hm : P.maxKey > 0) (hr : P.readSize > 0)
    (hu : (topUp P st).unprocessed = []) : (topUp P st).osbuf = [] := by
  unfold topUp at hu ⊢
  by_cases hlt : st.unprocessed.length < P.maxKey
  · rw [if_pos hlt] at hu ⊢
    have ho : st.osbuf = [] := read_zero P st hr (congrArg List.length (List.append_eq_nil_iff.mp hu).2)
    show st.osbuf.drop P.readSize = []
    rw [ho, List.drop_nil]
  · rw [if_neg hlt] at hu
    rw [hu] at hlt
    exact absurd hm hlt

theorem pasteLoop_cases (f : Nat) (acc : List (κ × List β)) (st : InSt β) :
    ((topUp P st).unprocessed = [] ∧ pasteLoop P gk val (f + 1) acc st = (.ok (some (.paste acc)), topUp P st)) ∨
    ∃ r used rest, findKey gk val (topUp P st).unprocessed [] = (r, used, rest) ∧
      used ++ rest = (topUp P st).unprocessed ∧ used ≠ [] ∧
      ((∃ k, r = .ok (some k) ∧ pasteLoop P gk val (f + 1) acc st =
          pasteLoop P gk val f (acc ++ [(k, used)]) { topUp P st with unprocessed := rest }) ∨
       ∃ e, r = .error e ∧
          pasteLoop P gk val (f + 1) acc st = (.error (.py e), { topUp P st with unprocessed := rest })) := by
  rcases findKey_cases gk val (topUp P st).unprocessed with ⟨hu, hk⟩ | ⟨r, used, rest, hk, hs, hne, hr⟩
  · exact .inl ⟨hu, by simp only [pasteLoop, topUp_def, hk, unprocessed_self hu]⟩
  · refine .inr ⟨r, used, rest, hk, hs, hne, ?_⟩
    rcases hr with ⟨k, rfl⟩ | ⟨e, rfl⟩
    · exact .inl ⟨k, rfl, by simp only [pasteLoop, topUp_def, hk]⟩
    · exact .inr ⟨e, rfl, by simp only [pasteLoop, topUp_def, hk]⟩

/-- the paste loop entered with fuel `f` and the paste so far `acc` answers `r` from `st` and leaves `st'` -/
structure Pasted (f : Nat) (acc : List (κ × List β)) (st : InSt β) (r : Except Fail (Option (Out κ β)))
    (st' : InSt β) : Prop where
  same : SameEvents st st'
  /-- the paste so far and what was pending: returned, still pending or (a raise only) lost; it answers a paste only -/
  ledger : ∃ lost, lost ++ outB (resOut r) ++ pend st' = acc.flatMap (·.2) ++ pend st ∧
    ∀ o, r = .ok o → lost = [] ∧ ∃ ks, o = some (.paste ks)
  /-- no event, and never `blockedForever` -/
  not_blocked : ByteRes r ∨ r = .error .outOfFuel
  /-- with more fuel than there are bytes the fuel does not run out -/
  fuel : st.unprocessed.length + st.osbuf.length < f → r ≠ .error .outOfFuel
  /-- a paste that comes back holds everything: neither the Input nor the OS buffer holds a byte afterwards -/
  drains : P.maxKey > 0 → P.readSize > 0 → ∀ o, r = .ok o → pend st' = []

variable {P} {gk} {val} in
theorem pasteLoop_spec : ∀ {f : Nat} {acc : List (κ × List β)} {st : InSt β} {r st'},
    pasteLoop P gk val f acc st = (r, st') → Pasted P f acc st r st' := by
  intro f
  induction f with
  | zero =>
    intro acc st r st' h
    cases h
    exact {
      same := SameEvents.refl st
      ledger := ⟨acc.flatMap (·.2), by simp [resOut, outB], nofun⟩
      not_blocked := .inr rfl
      fuel := fun h => absurd h (Nat.not_lt_zero _)
      drains := nofun }
  | succ f ih =>
    intro acc st r st' h
    obtain ⟨he1, b1⟩ := topUp_same P st
    rcases pasteLoop_cases P gk val f acc st with
      ⟨hu, heq⟩ | ⟨_, used, rest, -, hs, hne, ⟨k, -, heq⟩ | ⟨e, -, heq⟩⟩
    -- nothing to decode after the top-up: the paste is returned
    · cases heq.symm.trans h
      have hd : P.maxKey > 0 → P.readSize > 0 → pend (topUp P st) = [] := fun hm hr => by
        rw [pend, hu, List.nil_append]
        exact topUp_drained P st hm hr hu
      exact {
        same := he1
        ledger := ⟨[], by simp [resOut, outB, b1], fun o h => ⟨rfl, acc, by cases h; rfl⟩⟩
        not_blocked := .inl (.paste acc)
        fuel := fun _ => nofun
        drains := fun hm hr _ _ => hd hm hr }
    -- a keypress: it joins the paste, and the next round has a shorter buffer
    · obtain ⟨he0, hp⟩ := findKey_same (topUp P st) hs
      have next := ih (heq.symm.trans h)
      obtain ⟨lost, hl, ho⟩ := next.ledger
      have shorter : rest.length + (topUp P st).osbuf.length < st.unprocessed.length + st.osbuf.length := by
        have h1 := congrArg List.length hs
        have h2 : 0 < used.length := List.length_pos_iff.mpr hne
        have h3 := congrArg List.length b1
        simp only [pend, List.length_append] at h1 h3
        omega
      have hb : lost ++ outB (resOut r) ++ pend st' = acc.flatMap (·.2) ++ pend st := by
        rw [hl, ← b1, ← hp]
        simp
      exact {
        same := (he1.trans he0).trans next.same
        ledger := ⟨lost, hb, ho⟩
        not_blocked := next.not_blocked
        fuel := fun h => next.fuel (Nat.lt_of_lt_of_le shorter (Nat.le_of_lt_succ h))
        drains := next.drains }
    -- `find_key` raises: the paste so far and the bytes just popped are lost
    · obtain ⟨he0, hp⟩ := findKey_same (topUp P st) hs
      cases heq.symm.trans h
      exact {
        same := he1.trans he0
        ledger := ⟨acc.flatMap (·.2) ++ used, by simp [resOut, outB, ← b1, ← hp], nofun⟩
        not_blocked := .inl (.raise e)
        fuel := fun _ => nofun
        drains := nofun }

/-- Paste: the paste loop returns ONE paste event, never anything else, or raises; its keypresses' bytes, in order, then
    what is still pending are what was pending (read or in the OS buffer).  Nothing is left pending: `C08_paste_iff`. -/
theorem C08_paste (P : Params) (gk : List Nat → Bool → Except PyErr (Option κ)) (val : β → Nat) (st : InSt β)
    (o : Option (Out κ β)) (h : (pasteLoop P gk val (pasteFuel st) [] st).1 = .ok o) :
    ∃ ks, o = some (.paste ks) ∧
      ks.flatMap (·.2) ++ pend (pasteLoop P gk val (pasteFuel st) [] st).2 = pend st := by
  generalize hpl : pasteLoop P gk val (pasteFuel st) [] st = pr at h ⊢
  obtain ⟨r, st'⟩ := pr
  obtain ⟨lost, hl, ho⟩ := (pasteLoop_spec hpl).ledger
  obtain ⟨rfl, ks, rfl⟩ := ho o h
  cases show r = .ok (some (.paste ks)) from h
  exact ⟨ks, rfl, hl⟩

/-- how `_send` ends from `_nonblocking_read()` on (read bytes are there to decode, so its `assert` holds) -/
inductive ReadEnd (st : InSt β) : Except Fail (Option (Out κ β)) → InSt β → Prop
  | empty : (nonblockingRead P st).1 = 0 → ReadEnd st (.ok none) (nonblockingRead P st).2
  | paste {r : Except Fail (Option (Out κ β))} {s' : InSt β} : isPaste P (nonblockingRead P st).1 = true →
      pasteLoop P gk val (pasteFuel (nonblockingRead P st).2) [] (nonblockingRead P st).2 = (r, s') → ReadEnd st r s'
  | key {r : Except Fail (Option (Out κ β))} {s' : InSt β} : isPaste P (nonblockingRead P st).1 = false →
      Decoded gk val (nonblockingRead P st).2 r s' → ReadEnd st r s'

theorem sendRead_end (st : InSt β) (ag : Agenda β) :
    (sendRead P gk val st ag).2.2 = ag ∧
    ReadEnd P gk val st (sendRead P gk val st ag).1 (sendRead P gk val st ag).2.1 := by
  by_cases hn : (nonblockingRead P st).1 = 0
  · simp only [sendRead, hn, beq_self_eq_true, if_true]  -- the agenda clause has become `True`
    exact ⟨trivial, .empty hn⟩
  · have hn' : ((nonblockingRead P st).1 == 0) = false := beq_false_of_ne hn
    cases hp : isPaste P (nonblockingRead P st).1
    · rcases findKey_cases gk val (nonblockingRead P st).2.unprocessed with
        ⟨hu, -⟩ | ⟨_, used, rest, hk, hs, hu, ⟨k, rfl⟩ | ⟨e, rfl⟩⟩
      · exact absurd (congrArg List.length (List.append_eq_nil_iff.mp hu).2) hn  -- bytes were read
      · simp only [sendRead, hn', hp, hk, Bool.false_eq_true, if_false]
        exact ⟨trivial, .key hp (.key hk hs)⟩
      · simp only [sendRead, hn', hp, hk, Bool.false_eq_true, if_false]
        exact ⟨trivial, .key hp (.raise hk hs hu)⟩
    · simp only [sendRead, hn', hp, Bool.false_eq_true, if_false, if_true]
      exact ⟨trivial, .paste hp rfl⟩

variable {P} {gk} {val} in
theorem ReadEnd.answered {st s' : InSt β} {r : Except Fail (Option (Out κ β))} (h : ReadEnd P gk val st r s') :
    Answered st r s' ∧ (r = .ok none → (nonblockingRead P st).1 = 0) := by
  have hrd := read_same P st
  cases h with
  | empty h0 => exact ⟨⟨.empty, hrd.1, [], hrd.2, fun _ _ => rfl⟩, fun _ => h0⟩
  | key _ hd =>
    have ha := hd.answered
    exact ⟨⟨ha.res, hrd.1.trans ha.same, hrd.2 ▸ ha.b⟩, fun h => by subst h; cases hd⟩
  | paste _ hpl =>
    have hp := pasteLoop_spec hpl
    obtain ⟨lost, hl, ho⟩ := hp.ledger
    have hres : ByteRes r := hp.not_blocked.resolve_right (hp.fuel (by unfold pasteFuel; omega))
    refine ⟨⟨hres, hrd.1.trans hp.same, lost, by simpa [hrd.2] using hl, fun o h => (ho o h).1⟩, fun h => ?_⟩
    obtain ⟨-, ks, hks⟩ := ho _ h  -- the answer is a paste, not `None`
    cases hks

/-- PASTE: after a read of `n > 0` bytes, a paste event comes back exactly when `n > paste_threshold` (never for
    threshold None); it then holds, as consecutive keypresses in order, every byte that was available (`pend` is left
    empty), and the loop's fuel suffices.  Otherwise one keypress (or an exception: D15/D12/D35). -/
theorem C08_paste_iff (P : Params) (gk : List Nat → Bool → Except PyErr (Option κ)) (val : β → Nat)
    (st : InSt β) (ag : Agenda β) (o : Option (Out κ β)) (hm : P.maxKey > 0) (hr : P.readSize > 0)
    (hn : (nonblockingRead P st).1 ≠ 0) (h : (sendRead P gk val st ag).1 = .ok o) :
    (isPaste P (nonblockingRead P st).1 = true ↔ ∃ ks, o = some (.paste ks)) ∧
    (isPaste P (nonblockingRead P st).1 = true →
      ∃ ks, o = some (.paste ks) ∧ ks.flatMap (·.2) = pend st ∧ pend (sendRead P gk val st ag).2.1 = []) ∧
    (sendRead P gk val st ag).1 ≠ .error .outOfFuel := by
  obtain ⟨-, he⟩ := sendRead_end P gk val st ag
  obtain ⟨st', ag', hsr⟩ := triple_of_fst h
  rw [hsr] at he ⊢
  cases he with
  | empty h0 => exact absurd h0 hn
  | paste hip hpl =>
    have hp := pasteLoop_spec hpl
    obtain ⟨lost, hl, ho⟩ := hp.ledger
    obtain ⟨rfl, ks, rfl⟩ := ho o rfl
    have h2 := hp.drains hm hr _ rfl
    exact ⟨⟨fun _ => ⟨ks, rfl⟩, fun _ => hip⟩,
      fun _ => ⟨ks, rfl, by simpa [resOut, outB, h2, (read_same P st).2] using hl, h2⟩, nofun⟩
  | key hip hd =>
    have hno : ¬ isPaste P (nonblockingRead P st).1 = true := Bool.eq_false_iff.mp hip
    cases hd
    exact ⟨⟨fun hh => absurd hh hno, fun ⟨ks, hks⟩ => by cases hks⟩, fun hh => absurd hh hno, nofun⟩

/-! ## one request -/

/-- how a request that found no keypress buffered ends, from the state `mid` its wait left -/
inductive RestEnd (wf : Nat) (tuc : Option Time) (st : InSt β) (ag : Agenda β) (mid : InSt β) :
    Except Fail (Option (Out κ β)) → InSt β → Prop
  | fuel : wf ≤ waitMeasure st ag → RestEnd wf tuc st ag mid (.error .outOfFuel) mid
  | blocked : firstReady P mid = none → RestEnd wf tuc st ag mid (.error .blockedForever) mid
  | pop {ev : Out κ β} {st' : InSt β} : Pop mid ev st' → RestEnd wf tuc st ag mid (.ok (some ev)) st'
  | timeout : firstReady P mid = none → (∃ T, tuc = some T ∧ st.clock + T ≤ mid.clock) →
      RestEnd wf tuc st ag mid (.ok none) (sorted mid)
  | read {r : Except Fail (Option (Out κ β))} {st' : InSt β} : mid.osbuf ≠ [] ∨ mid.spurious = true →
      ReadEnd P gk val (sorted mid) r st' → RestEnd wf tuc st ag mid r st'

theorem afterWait_cases (ready : Bool) (st : InSt β) (ag : Agenda β) :
    (∃ ev st', Pop st ev st' ∧ afterWait P gk val ready st ag = (.ok (some ev), st', ag)) ∨
    afterWait P gk val ready st ag =
      if ready then sendRead P gk val (sorted st) ag else (.ok none, sorted st, ag) := by
  unfold afterWait
  split
  · rename_i w e srest hso
    simp only []
    split
    · exact .inl ⟨_, _, .due hso ‹_›, rfl⟩
    · exact .inr (by rw [sorted, hso]; cases ready <;> rfl)
  · rename_i hso
    exact .inr (by rw [sorted_of_nil hso]; cases ready <;> rfl)

/-- whatever the wait found, what follows it does not block: `_nonblocking_read` -/
theorem afterWait_not_blocked (ready : Bool) (st : InSt β) (ag : Agenda β) :
    (afterWait P gk val ready st ag).1 ≠ .error .blockedForever := by
  rcases afterWait_cases P gk val ready st ag with ⟨ev, st', -, h⟩ | h
  · rw [h]
    nofun
  · rw [h]
    cases ready
    · nofun
    · exact (sendRead_end P gk val (sorted st) ag).2.answered.1.res.not_blocked

variable {P} {gk} {val} in
theorem sendRest_spec {wf : Nat} {tuc : Option Time} {st st' : InSt β} {ag ag' : Agenda β}
    {res : Except Fail (Option (Out κ β))} (h : sendRest P gk val wf tuc st ag = (res, st', ag')) :
    (ag' = ag ∧ Decoded gk val st res st') ∨
    (st.unprocessed = [] ∧ ∃ fired mid, Ran P st ag fired mid ag' ∧ RestEnd P gk val wf tuc st ag mid res st') := by
  obtain ⟨rfl, h⟩ := Prod.ext_iff.mp h
  obtain ⟨rfl, rfl⟩ := Prod.ext_iff.mp h
  rcases findKey_cases gk val st.unprocessed with
    ⟨hu, hk⟩ | ⟨_, used, rest, hk, hs, hne, ⟨k, rfl⟩ | ⟨e, rfl⟩⟩
  · refine .inr ⟨hu, ?_⟩
    obtain ⟨⟨fired, mid, hran, hend⟩, hfu, hto⟩ := waitLoop_spec (κ := κ) P tuc st.clock wf tuc st ag
    simp only [sendRest, hk, unprocessed_self hu]
    generalize waitLoop (κ := κ) P tuc st.clock wf tuc st ag = wr at hran hend hfu hto
    obtain ⟨wres, st1, ag1⟩ := wr
    cases hend with
    | fuel => exact ⟨fired, _, hran, .fuel (Nat.le_of_not_lt fun h => hfu h rfl)⟩
    | blocked hb => exact ⟨fired, _, hran, .blocked hb⟩
    | pop hp => exact ⟨fired, _, hran, .pop hp⟩
    | timeout hidle =>
      rcases afterWait_cases P gk val false st1 ag1 with ⟨ev, st', hp, heq⟩ | heq
      · simp only [heq]; exact ⟨fired, _, hran, .pop hp⟩
      · simp only [heq]; exact ⟨fired, _, hran, .timeout hidle (hto (RemInv.init tuc st.clock) rfl)⟩
    | stdin hrd =>
      rcases afterWait_cases P gk val true st1 ag1 with ⟨ev, st', hp, heq⟩ | heq
      · simp only [heq]; exact ⟨fired, _, hran, .pop hp⟩
      · obtain ⟨ha, he⟩ := sendRead_end P gk val (sorted st1) ag1
        simp only [heq, if_true, ha]
        exact ⟨fired, _, hran, .read hrd he⟩
  · exact .inl (by simp only [sendRest, hk]; exact ⟨trivial, .key hk hs⟩)
  · exact .inl (by simp only [sendRest, hk]; exact ⟨trivial, .raise hk hs hne⟩)

/-- the four early returns of `_send` find nothing -/
structure NoPop (st : InSt β) : Prop where
  g : ¬ st.sigints > 0
  q : st.queued = []
  i : st.interrupting = []
  s : ∀ x ∈ sortSched st.scheduled, ¬ x.1 < st.clock

/-- `tuc` is `time_until_check`: the `timeout` itself unless a scheduled event is pending -/
theorem send_cases (wf : Nat) (st : InSt β) (ag : Agenda β) (timeout : Option Time) :
    (∃ ev st', Pop st ev st' ∧ send P gk val wf st ag timeout = (.ok (some ev), st', ag)) ∨
    (NoPop st ∧ ∃ tuc, (st.scheduled = [] → tuc = timeout) ∧
      send P gk val wf st ag timeout = sendRest P gk val wf tuc (sorted st) ag) := by
  unfold send
  split
  · exact .inl ⟨_, _, .sigint ‹_›, rfl⟩
  · rename_i hg
    split
    · exact .inl ⟨_, _, .queued ‹_›, rfl⟩
    · rename_i hq
      split
      · exact .inl ⟨_, _, .intr ‹_›, rfl⟩
      · rename_i hi
        split
        · rename_i w e srest hso
          simp only []
          split
          · rename_i hdue
            exact .inl ⟨_, _, .due hso hdue, rfl⟩
          · rename_i hdue
            refine .inr ⟨⟨hg, hq, hi, fun x hx hlt => ?_⟩, _, fun h => ?_, by rw [sorted, hso]⟩
            · have hs := sortSched_sorted st.scheduled
              rw [hso] at hs hx
              rcases List.mem_cons.mp hx with rfl | hx
              · exact hdue hlt
              · exact hdue (Nat.lt_of_le_of_lt (hs.1 x hx) hlt)
            · rw [h] at hso; cases hso
        · rename_i hso
          exact .inr ⟨⟨hg, hq, hi, fun x hx => (by rw [hso] at hx; cases hx)⟩, timeout, fun _ => rfl, by
            rw [sorted_of_nil hso]⟩

variable {P} {gk} {val} in
theorem RestEnd.took {wf : Nat} {tuc : Option Time} {st mid st' a : InSt β} {ag f : Agenda β}
    {res : Except Fail (Option (Out κ β))} (h : RestEnd P gk val wf tuc st ag mid res st')
    (ht : Took (κ := κ) P a f none [] mid) :
    ∃ lost, Took P a f (resOut res) lost st' ∧ (∀ o, res = .ok o → lost = []) := by
  cases h with
  | fuel _ | blocked _ => exact ⟨[], ht, fun _ h => by cases h⟩
  | pop hp => exact ⟨[], ht.andThen hp.internal, fun _ _ => rfl⟩
  | timeout _ _ => exact ⟨[], ht.andThen (sorted_internal mid), fun _ _ => rfl⟩
  | read _ he =>
    obtain ⟨lost, hi, hl⟩ := he.answered.1.internal
    exact ⟨lost, (ht.andThen (sorted_internal mid)).andThen hi, hl⟩

/-- THE LEDGER (header) of one request, whatever its outcome, exceptions included: everything that was pending or came
    in is returned, still held, or - bytes only - in `lost`, once and in per-source order; and a request that does not
    raise loses nothing. -/
theorem C08_exactly_once (P : Params) (gk : List Nat → Bool → Except PyErr (Option κ)) (val : β → Nat) (wf : Nat)
    (st : InSt β) (ag : Agenda β) (timeout : Option Time) :
    ∃ fired lost, ag = fired ++ (send P gk val wf st ag timeout).2.2 ∧
      Took P st fired (resOut (send P gk val wf st ag timeout).1) lost (send P gk val wf st ag timeout).2.1 ∧
      (∀ o, (send P gk val wf st ag timeout).1 = .ok o → lost = []) := by
  rcases send_cases P gk val wf st ag timeout with ⟨ev, st', hp, h⟩ | ⟨-, tuc, -, h⟩
  · rw [h]; exact ⟨[], [], rfl, hp.internal.took, fun _ _ => rfl⟩
  · rw [h]
    have hs := sorted_internal (κ := κ) st
    rcases hsr : sendRest P gk val wf tuc (sorted st) ag with ⟨res, st', ag'⟩
    rcases sendRest_spec hsr with ⟨hag, hk⟩ | ⟨-, fired, mid, hran, hend⟩
    · obtain ⟨lost, hi, hl⟩ := hk.answered.internal
      exact ⟨[], lost, hag.symm, hs.took.andThen hi, hl⟩
    · obtain ⟨lost, ht, hl⟩ := hend.took hran.grew.took
      exact ⟨fired, lost, hran.split, Took.before hs ht, hl⟩

/-- The property's first sentence at full strength: NO request ever loses a byte.
    REFUTED: `C08_full_statement_false` (from the D15 witness; D12 and D35 refute it as well). -/
def C08_full_statement : Prop :=
  ∀ (β κ : Type) (P : Params) (gk : List Nat → Bool → Except PyErr (Option κ)) (val : β → Nat) (wf : Nat)
    (st : InSt β) (ag : Agenda β) (timeout : Option Time),
    ∃ fired, ag = fired ++ (send P gk val wf st ag timeout).2.2 ∧
      Took P st fired (resOut (send P gk val wf st ag timeout).1) [] (send P gk val wf st ag timeout).2.1

/-- Exactly once, in order, never dropped - for every request that does not raise.  "Does not raise" is the
    complement of the union of the open findings D15, D12 and D35 (header), the only ways `find_key` raises.
    The hypothesis is an OUTCOME (the request returned): it also excludes `get_key`'s `len(seq) > MAX_KEYPRESS_SIZE`
    ValueError (unreachable with the real tables: every proper prefix of a key and every unfinished UTF-8 sequence is
    shorter) and the `assert` of the non-paste branch (which cannot fail: `sendRead_end`).
    Input-level forms: `C08_find_key_complete`, `C08_no_loss_wellformed`; for the real decoder the witnesses and
    `C08_no_loss_real` in Properties/C08Real.lean. -/
theorem C08_exactly_once_partial (P : Params) (gk : List Nat → Bool → Except PyErr (Option κ)) (val : β → Nat)
    (wf : Nat) (st : InSt β) (ag : Agenda β) (timeout : Option Time) (o : Option (Out κ β))
    (h : (send P gk val wf st ag timeout).1 = .ok o) :
    ∃ fired, ag = fired ++ (send P gk val wf st ag timeout).2.2 ∧
      Took P st fired o [] (send P gk val wf st ag timeout).2.1 := by
  obtain ⟨fired, lost, hf, ht, hl⟩ := C08_exactly_once P gk val wf st ag timeout
  obtain rfl := hl o h
  rw [h] at ht
  exact ⟨fired, hf, ht⟩

theorem sendRest_none (wf : Nat) (tuc : Option Time) (st : InSt β) (ag : Agenda β) (hr : P.readSize > 0)
    (hz : st.spurious = false) (hq : ∀ x ∈ ag, isSpur x.2 = false)
    (h : (sendRest P gk val wf tuc st ag).1 = .ok none) :
    firstReady P (sendRest P gk val wf tuc st ag).2.1 = none ∧
      ∃ T, tuc = some T ∧ st.clock + T ≤ (sendRest P gk val wf tuc st ag).2.1.clock := by
  obtain ⟨st', ag', hsr⟩ := triple_of_fst h
  rw [hsr]
  rcases sendRest_spec hsr with ⟨-, hk⟩ | ⟨-, fired, mid, hran, hend⟩
  · cases hk
  · cases hend with
    | timeout hidle hlate => exact ⟨hidle, hlate⟩
    | read hrd he =>
      -- "ready" and yet `None`: the read found nothing, so the readiness was spurious
      exfalso
      have ho : mid.osbuf = [] := read_zero P (sorted mid) hr (he.answered.2 rfl)
      rcases hrd with h2 | h2
      · exact h2 ho
      · rw [hran.quiet hz hq] at h2; cases h2

/-- the timeout clause without the exclusion of spurious readiness / end-of-file.  FALSE, though no theorem here says
    so: with `toyParams`, `toyKey`, the state `{ spurious := true }`, an empty agenda and timeout `some 5`, `send`
    answers `.ok none` and the clock has not moved.  In the code: the stream is reported readable, os.read returns
    nothing, `_send` returns None at once - by design (the SIGTSTP/dsusp case); the same happens on EOF, which is
    outside the property's quantifier (arrivals, callbacks, requests). -/
def C08_timeout_full_statement : Prop :=
  ∀ (β κ : Type) (P : Params) (gk : List Nat → Bool → Except PyErr (Option κ)) (val : β → Nat) (wf : Nat)
    (st : InSt β) (ag : Agenda β) (timeout : Option Time), st.scheduled = [] → P.readSize > 0 →
    (send P gk val wf st ag timeout).1 = .ok none →
    ∃ T, timeout = some T ∧ st.clock + T ≤ (send P gk val wf st ag timeout).2.1.clock

/-- TIMEOUT (partial: spurious readiness / EOF excluded by `hz`, `hq`): with no scheduled event pending, a request that
    returns `None` was given a timeout and returns no earlier than `start + timeout` (whatever else happens meanwhile:
    event-less wake-ups, signals, callbacks). -/
theorem C08_timeout_partial (P : Params) (gk : List Nat → Bool → Except PyErr (Option κ)) (val : β → Nat) (wf : Nat)
    (st : InSt β) (ag : Agenda β) (timeout : Option Time)
    (hs : st.scheduled = []) (hz : st.spurious = false) (hq : ∀ x ∈ ag, isSpur x.2 = false) (hr : P.readSize > 0)
    (h : (send P gk val wf st ag timeout).1 = .ok none) :
    ∃ T, timeout = some T ∧ st.clock + T ≤ (send P gk val wf st ag timeout).2.1.clock := by
  rcases send_cases P gk val wf st ag timeout with ⟨ev, st', -, h1⟩ | ⟨-, tuc, htuc, h1⟩
  · rw [h1] at h; cases h
  · obtain rfl := htuc hs
    rw [h1, sorted_of_nil (by rw [hs]; rfl)] at h ⊢
    exact (sendRest_none P gk val wf tuc st ag hr hz hq h).2

/-- NO EARLY: a scheduled event comes back only after its time has passed (`when < clock`), it is the first of the
    pending scheduled events in time order (every event still pending has a time >= its own), and among pending events
    with the same time it is the first in list order - which is trigger order, because callbacks append and the sort
    is stable.  `pending` is the list the request sorted: the queue as it was (first check), or the sorted queue plus
    what was scheduled while the request waited (second check). -/
theorem C08_no_early (P : Params) (gk : List Nat → Bool → Except PyErr (Option κ)) (val : β → Nat) (wf : Nat)
    (st : InSt β) (ag : Agenda β) (timeout : Option Time) (t : Time) (e : Ev)
    (h : (send P gk val wf st ag timeout).1 = .ok (some (.scheduled t e))) :
    t < (send P gk val wf st ag timeout).2.1.clock ∧
    ∃ pending, (pending = st.scheduled ∨
        ∃ fired, ag = fired ++ (send P gk val wf st ag timeout).2.2 ∧ pending = sortSched st.scheduled ++ envS fired) ∧
      sortSched pending = (t, e) :: (send P gk val wf st ag timeout).2.1.scheduled ∧
      (∀ x ∈ (send P gk val wf st ag timeout).2.1.scheduled, t ≤ x.1) ∧
      pending.filter (fun p => p.1 == t) =
        (t, e) :: (send P gk val wf st ag timeout).2.1.scheduled.filter (fun p => p.1 == t) := by
  have first : ∀ pending rest : List (Time × Ev), sortSched pending = (t, e) :: rest →
      (∀ x ∈ rest, t ≤ x.1) ∧ pending.filter (fun p => p.1 == t) = (t, e) :: rest.filter (fun p => p.1 == t) := by
    intro pending rest hs
    have h1 := sortSched_sorted pending
    have h2 := sortSched_stable t pending
    rw [hs] at h1 h2
    exact ⟨h1.1, by rw [← h2]; simp⟩
  rcases send_cases P gk val wf st ag timeout with ⟨ev, st', hp, h1⟩ | ⟨-, tuc, -, h1⟩
  · rw [h1] at h ⊢
    cases h
    cases hp with
    | due hso hdue => exact ⟨hdue, st.scheduled, .inl rfl, hso, first _ _ hso⟩
  · rw [h1] at h ⊢
    obtain ⟨st', ag', hsr⟩ := triple_of_fst h
    rw [hsr]
    rcases sendRest_spec hsr with ⟨-, hk⟩ | ⟨-, fired, mid, hran, hend⟩
    · cases hk
    · cases hend with
      | pop hp =>
        cases hp with
        | due hso hdue => exact ⟨hdue, mid.scheduled, .inr ⟨fired, hran.split, hran.grew.s⟩, hso, first _ _ hso⟩
      | read _ he => exact nomatch he.answered.1.res

theorem sendRest_prompt (wf : Nat) (tuc : Option Time) (st : InSt β) (ag : Agenda β) (hr : P.readSize > 0)
    (h : st.unprocessed ≠ [] ∨ st.osbuf ≠ []) :
    (sendRest P gk val wf tuc st ag).1 ≠ .ok none ∧
    (sendRest P gk val wf tuc st ag).1 ≠ .error .blockedForever ∧
    (sendRest P gk val wf tuc st ag).2.2 = ag ∧
    (sendRest P gk val wf tuc st ag).2.1.clock = st.clock := by
  rcases hsr : sendRest P gk val wf tuc st ag with ⟨res, st', ag'⟩
  rcases sendRest_spec hsr with ⟨hag, hk⟩ | ⟨hu, fired, mid, hran, hend⟩
  · cases hk <;> exact ⟨nofun, nofun, hag, rfl⟩
  · have ho : st.osbuf ≠ [] := h.resolve_left (not_not_intro hu)
    -- stdin is readable from the start: `select` returns at once
    obtain ⟨rfl, rfl⟩ := hran.still ho
    have hag := hran.split.symm
    cases hend with
    | fuel _ => exact ⟨nofun, nofun, hag, rfl⟩
    | blocked hb | timeout hb _ => exact absurd (firstReady_none P _ hb).1 ho
    | pop hp => exact ⟨nofun, nofun, hag, hp.clock⟩
    | read _ he =>
      obtain ⟨ha, hl⟩ := he.answered
      refine ⟨fun hn => ho ?_, ha.res.not_blocked, hag, ha.same.c⟩
      exact read_zero P (sorted mid) hr (hl hn)

/-- Prompt (buffered bytes): with bytes already buffered `_send` from `find_key` on (whatever `time_until_check`) does
    not answer `None`, consumes no agenda item (no waiting) and takes no time. -/
theorem C08_prompt_buffered (P : Params) (gk : List Nat → Bool → Except PyErr (Option κ)) (val : β → Nat) (wf : Nat)
    (tuc : Option Time) (st : InSt β) (ag : Agenda β) (h : st.unprocessed ≠ []) :
    (sendRest P gk val wf tuc st ag).1 ≠ .ok none ∧ (sendRest P gk val wf tuc st ag).2.2 = ag ∧
      (sendRest P gk val wf tuc st ag).2.1.clock = st.clock := by
  rcases hsr : sendRest P gk val wf tuc st ag with ⟨res, st', ag'⟩
  rcases sendRest_spec hsr with ⟨hag, hk⟩ | ⟨hu, -⟩
  · cases hk <;> exact ⟨nofun, hag, rfl⟩
  · exact absurd hu h

/-- Prompt (queues): a request started with a pending SIGINT event, queued event or interrupting event returns one
    of them without consuming any agenda item (no select) and without the clock moving. -/
theorem C08_prompt_events (P : Params) (gk : List Nat → Bool → Except PyErr (Option κ)) (val : β → Nat) (wf : Nat)
    (st : InSt β) (ag : Agenda β) (timeout : Option Time)
    (h : st.sigints > 0 ∨ st.queued ≠ [] ∨ st.interrupting ≠ []) :
    (∃ ev, (send P gk val wf st ag timeout).1 = .ok (some ev)) ∧ (send P gk val wf st ag timeout).2.2 = ag ∧
      (send P gk val wf st ag timeout).2.1.clock = st.clock := by
  rcases send_cases P gk val wf st ag timeout with ⟨ev, st', hp, h1⟩ | ⟨hn, -⟩
  · rw [h1]; exact ⟨⟨ev, rfl⟩, rfl, hp.clock⟩
  · rcases h with h | h | h
    · exact absurd h hn.g
    · exact absurd hn.q h
    · exact absurd hn.i h

/-- PROMPT: a request started while something is deliverable - a SIGINT event, a queued or interrupting event, a
    scheduled event whose time has passed, bytes already buffered, or bytes waiting in the OS buffer - does not return
    `None`, does not block, consumes no agenda item (no waiting select) and takes no time.
    The `wf + 1` adds nothing: with wait fuel 0 and only the OS buffer non-empty the model answers `Fail.outOfFuel`
    instead of reading, which satisfies the four conjuncts as well (`sendRest_prompt` proves them for every `wf`).
    That the answer is not `outOfFuel`: `C08_no_out_of_fuel`. -/
theorem C08_prompt (P : Params) (gk : List Nat → Bool → Except PyErr (Option κ)) (val : β → Nat) (wf : Nat)
    (st : InSt β) (ag : Agenda β) (timeout : Option Time) (hr : P.readSize > 0)
    (h : st.sigints > 0 ∨ st.queued ≠ [] ∨ st.interrupting ≠ [] ∨ (∃ x ∈ st.scheduled, x.1 < st.clock) ∨
      st.unprocessed ≠ [] ∨ st.osbuf ≠ []) :
    (send P gk val (wf + 1) st ag timeout).1 ≠ .ok none ∧
    (send P gk val (wf + 1) st ag timeout).1 ≠ .error .blockedForever ∧
    (send P gk val (wf + 1) st ag timeout).2.2 = ag ∧
    (send P gk val (wf + 1) st ag timeout).2.1.clock = st.clock := by
  rcases send_cases P gk val (wf + 1) st ag timeout with ⟨ev, st', hp, h1⟩ | ⟨hn, tuc, -, h1⟩
  · rw [h1]; exact ⟨nofun, nofun, rfl, hp.clock⟩
  · rw [h1]
    rcases h with h | h | h | ⟨x, hx, hlt⟩ | h
    · exact absurd h hn.g
    · exact absurd hn.q h
    · exact absurd hn.i h
    · exact absurd hlt (hn.s x ((sortSched_perm _).mem_iff.mpr hx))
    · exact sendRest_prompt P gk val _ tuc (sorted st) ag hr h

/-- A request never returns `None` while anything is readable: when `send` returns `None` (no spurious readiness
    involved), afterwards no trigger pipe holds an unread byte, the wake-up fd holds none and the stream holds none.
    In particular a thread-safe callback whose write has landed is never passed over by a timeout: its pipe byte makes
    `select` return and the pipe branch of the wait pops the event (`C08_wait_exactly_once`). -/
theorem C08_none_nothing_readable_partial (P : Params) (gk : List Nat → Bool → Except PyErr (Option κ)) (val : β → Nat)
    (wf : Nat) (st : InSt β) (ag : Agenda β) (timeout : Option Time) (hz : st.spurious = false)
    (hq : ∀ x ∈ ag, isSpur x.2 = false) (hr : P.readSize > 0)
    (h : (send P gk val wf st ag timeout).1 = .ok none) :
    firstReady P (send P gk val wf st ag timeout).2.1 = none ∧
    (∀ n ∈ (send P gk val wf st ag timeout).2.1.pipes, n = 0) := by
  have key : firstReady P (send P gk val wf st ag timeout).2.1 = none := by
    rcases send_cases P gk val wf st ag timeout with ⟨ev, st', -, h1⟩ | ⟨-, tuc, -, h1⟩
    · rw [h1] at h; cases h
    · rw [h1] at h ⊢
      exact (sendRest_none P gk val wf tuc (sorted st) ag hr hz hq h).1
  exact ⟨key, firstPipe_none _ 0 (firstReady_none P _ key).2⟩

/-! ## witnesses of the known findings -/

/-- a miniature `get_key` for utf-8 with the shapes of D15 (e2 starts a 3-byte character), D35 (c3 + a byte that is
    no continuation byte raises) and D12 (ESC + a byte >= 0x80 raises) -/
def toyKey (seq : List Nat) (full : Bool) : Except PyErr (Option (List Nat)) :=
  match seq with
  | [b] => if b == 0x1b then (if full then .ok (some [b]) else .ok none)
           else if b == 0xe2 || b == 0xc3 then (if full then .ok (some [b]) else .ok none) else .ok (some [b])
  | [0x1b, b] => if b ≥ 0x80 then .error .unicodeDecodeError else .ok (some [0x1b, b])
  | [0xc3, b] => if 0x80 ≤ b && b ≤ 0xbf then .ok (some [0xc3, b]) else .error .unicodeDecodeError
  | [0xe2, _] => .ok none
  | [0xe2, b, c] => .ok (some [0xe2, b, c])
  | _ => .error .valueError

def toyParams : Params := { readSize := 1024, maxKey := 7, pasteThreshold := some 8, hasWake := true }

/-- D15 on the model: `e2 82` available at t=0, `ac` at t=1: the request raises ValueError and afterwards neither
    the Input nor the OS buffer hold the two bytes - they are lost. (replayed on the real code every run:
    script `A0:e282 A1:ac | rN`) -/
theorem C08_D15_witness :
    let r := send toyParams toyKey id 10 ({} : InSt Nat) [(0, .arrive [0xe2, 0x82]), (1, .arrive [0xac])] none
    (match r.1 with | .error (.py .valueError) => true | _ => false) = true ∧
      r.2.1.unprocessed = [] ∧ r.2.1.osbuf = [] ∧ r.2.2.length = 1 := by
  decide

/-- D12 seen from C08: Esc and 'é' (`c3 a9`) available together: UnicodeDecodeError on `1b c3`; these two bytes are
    lost, `a9` stays buffered. (script `A0:1bc3a9 | r0`) -/
theorem C08_D12_witness :
    let r := send toyParams toyKey id 10 ({} : InSt Nat) [(0, .arrive [0x1b, 0xc3, 0xa9])] (some 0)
    (match r.1 with | .error (.py .unicodeDecodeError) => true | _ => false) = true ∧
      r.2.1.unprocessed = [0xa9] ∧ r.2.1.osbuf = [] := by
  decide

/-- D35 on the model: the ill-formed sequence `c3 41` ('A' after a 2-byte lead byte): UnicodeDecodeError, and the valid
    'A' is gone with the lead byte - neither the Input nor the OS buffer holds anything. (script `A0:c341 | r0`) -/
theorem C08_D35_witness :
    let r := send toyParams toyKey id 10 ({} : InSt Nat) [(0, .arrive [0xc3, 0x41])] (some 0)
    (match r.1 with | .error (.py .unicodeDecodeError) => true | _ => false) = true ∧
      r.2.1.unprocessed = [] ∧ r.2.1.osbuf = [] := by
  decide

/-- The full-strength statement is not merely unproved: it is FALSE (D15; likewise D12, D35). -/
theorem C08_full_statement_false : ¬ C08_full_statement := by
  intro h
  obtain ⟨fired, hf, ht⟩ := h Nat (List Nat) toyParams toyKey id 10 ({} : InSt Nat)
    [(0, .arrive [0xe2, 0x82]), (1, .arrive [0xac])] none
  obtain ⟨h1, h2, h3, h4⟩ := C08_D15_witness
  have hb := ht.b
  generalize send toyParams toyKey id 10 ({} : InSt Nat) [(0, .arrive [0xe2, 0x82]), (1, .arrive [0xac])] none = r
    at hf hb h1 h2 h3 h4
  obtain ⟨res, st', ag'⟩ := r
  -- one item fired (`e2 82`), nothing came out and nothing is held: the ledger of bytes cannot balance
  obtain rfl : [(0, EnvAct.arrive [0xe2, 0x82])] = fired :=
    (List.append_inj' (s₁ := [_]) (t₁ := [_]) hf (by rw [h4]; rfl)).1
  cases res with
  | ok o => cases h1
  | error f =>
    rw [show pend st' = [] by rw [pend, h2, h3]; rfl] at hb
    cases hb

/-- Non-vacuity of `C08_exactly_once_partial`: the same bytes arriving whole come back as one keypress. -/
example : (match (send toyParams toyKey id 10 ({} : InSt Nat) [(0, .arrive [0xe2, 0x82, 0xac])] none).1 with
    | .ok (some (.key k bs)) => k == [0xe2, 0x82, 0xac] && bs == [0xe2, 0x82, 0xac] | _ => false) = true := by
  decide

/-! ## many requests -/

abbrev Log (κ β : Type) := List (Except Fail (Option (Out κ β)))

def logQ (log : Log κ β) : List Ev := log.flatMap fun r => outQ (resOut r)
def logI (log : Log κ β) : List Ev := log.flatMap fun r => outI (resOut r)
def logS (log : Log κ β) : List (Time × Ev) := log.flatMap fun r => outS (resOut r)
def logG (log : Log κ β) : Nat := (log.map fun r => outG (resOut r)).sum
def logB (log : Log κ β) : List β := log.flatMap fun r => outB (resOut r)

/-- ledger of a history; the byte clause only if no request raised and no `unget_bytes` fired (an unget between two
    requests lands behind the bytes already read, i.e. in the middle of `pend`) -/
structure Hist (P : Params) (st : InSt β) (fired : Agenda β) (log : Log κ β) (st' : InSt β) : Prop where
  q : logQ log ++ st'.queued = st.queued ++ envQ fired
  i : logI log ++ st'.interrupting = st.interrupting ++ envI fired
  s : (logS log ++ st'.scheduled).Perm (st.scheduled ++ envS fired)
  g : logG log + st'.sigints = st.sigints + envG P fired
  b : (∀ x ∈ fired, isUnget x.2 = false) → (∀ r ∈ log, ∃ o, r = .ok o) →
        logB log ++ pend st' = pend st ++ envB fired
  c : st.clock ≤ st'.clock

theorem Hist.nil (P : Params) (st : InSt β) : Hist (κ := κ) P st [] [] st :=
  ⟨by simp [logQ, envQ], by simp [logI, envI], by simp [logS, envS], by simp [logG, envG],
   fun _ _ => by simp [logB, envB], Nat.le_refl _⟩

theorem Hist.append {P : Params} {a b c : InSt β} {f1 f2 : Agenda β} {l1 l2 : Log κ β}
    (h1 : Hist P a f1 l1 b) (h2 : Hist P b f2 l2 c) : Hist P a (f1 ++ f2) (l1 ++ l2) c := by
  refine ⟨?_, ?_, ?_, ?_, fun hu hok => ?_, Nat.le_trans h1.c h2.c⟩
  · rw [logQ, List.flatMap_append, envQ_append]
    exact ledger_append h1.q h2.q
  · rw [logI, List.flatMap_append, envI_append]
    exact ledger_append h1.i h2.i
  · rw [logS, List.flatMap_append, envS_append]
    exact ledger_append_perm h1.s h2.s
  · have e : logG (l1 ++ l2) = logG l1 + logG l2 := by simp only [logG, List.map_append, List.sum_append]
    rw [e, envG_append, Nat.add_assoc, h2.g, ← Nat.add_assoc, h1.g, Nat.add_assoc]
  · rw [logB, List.flatMap_append, envB_append]
    exact ledger_append
      (h1.b (fun x hx => hu x (List.mem_append_left _ hx)) (fun r hr => hok r (List.mem_append_left _ hr)))
      (h2.b (fun x hx => hu x (List.mem_append_right _ hx)) (fun r hr => hok r (List.mem_append_right _ hr)))

theorem Took.hist {P : Params} {a b : InSt β} {f : Agenda β} {res : Except Fail (Option (Out κ β))} {lost : List β}
    (h : Took P a f (resOut res) lost b) (hl : ∀ o, res = .ok o → lost = []) : Hist P a f [res] b :=
  ⟨by simpa [logQ] using h.q, by simpa [logI] using h.i, by simpa [logS] using h.s, by simpa [logG] using h.g,
   fun _ hok => by
    obtain ⟨o, ho⟩ := hok res (by simp)
    have := h.b
    rw [hl o ho] at this
    simpa [logB] using this, h.c⟩

theorem applyEnv_hist (P : Params) (a : EnvAct β) (st : InSt β) (t : Time) :
    Hist (κ := κ) P st [(t, a)] [] (applyEnv P a st) := by
  have e := applyEnv_eq P a st
  exact ⟨by simpa [envQ, logQ] using e.q, by simpa [envI, logI] using e.i, by simp [envS, logS, e.s],
    by simpa [envG, logG] using e.g,
    fun hu _ => by simpa [envB, logB] using applyEnv_pend P a st (.inr (hu _ List.mem_cons_self)), Nat.le_of_eq e.c.symm⟩

theorem fireDue_hist (P : Params) (st : InSt β) (ag : Agenda β) :
    ∃ fired, ag = fired ++ (fireDue P st ag).2 ∧ Hist (κ := κ) P st fired [] (fireDue P st ag).1 := by
  induction ag generalizing st with
  | nil => exact ⟨[], rfl, Hist.nil P st⟩
  | cons x rest ih =>
    obtain ⟨t, a⟩ := x
    unfold fireDue
    split
    · obtain ⟨f, hf, hh⟩ := ih (applyEnv P a st)
      exact ⟨(t, a) :: f, by simp [← hf], (applyEnv_hist P a st t).append hh⟩
    · exact ⟨[], rfl, Hist.nil P st⟩

/-- EXACTLY ONCE over a whole history (any script of requests and clock advances, any agenda): the ledger with
    "returned" read over all requests, in order - events per trigger source in trigger order, scheduled events as a
    multiset, SIGINT events as a count, bytes (of keypresses and pastes) in arrival order; the byte clause for
    histories in which no request raised (D15/D12/D35) and no `unget_bytes` fired. -/
theorem C08_exactly_once_history (P : Params) (gk : List Nat → Bool → Except PyErr (Option κ)) (val : β → Nat)
    (ops : List MainOp) :
    ∀ (st : InSt β) (ag : Agenda β),
      ∃ fired, ag = fired ++ (run P gk val ops st ag).2.2 ∧
        Hist P st fired (run P gk val ops st ag).1 (run P gk val ops st ag).2.1 := by
  induction ops with
  | nil => intro st ag; exact ⟨[], rfl, Hist.nil P st⟩
  | cons op ops ih =>
    intro st ag
    cases op with
    | advance dt =>
      simp only [run, advance]
      obtain ⟨f1, h1, hh1⟩ := fireDue_hist (κ := κ) P { st with clock := st.clock + dt } ag
      generalize fireDue P { st with clock := st.clock + dt } ag = fd at h1 hh1
      obtain ⟨st1, ag1⟩ := fd
      obtain ⟨f2, h2, hh2⟩ := ih st1 ag1
      have hh1' : Hist (κ := κ) P st f1 [] st1 :=
        ⟨hh1.q, hh1.i, hh1.s, hh1.g, hh1.b, Nat.le_trans (Nat.le_add_right _ _) hh1.c⟩
      exact ⟨f1 ++ f2, by rw [h1, List.append_assoc, ← h2], hh1'.append hh2⟩
    | reenter => simp only [run]; exact ih st ag
    | request t =>
      simp only [run]
      obtain ⟨f1, lost, h1, ht, hl⟩ := C08_exactly_once P gk val (waitFuelFor st ag) st ag t
      generalize send P gk val (waitFuelFor st ag) st ag t = sr at h1 ht hl
      obtain ⟨res, st1, ag1⟩ := sr
      split
      · rename_i heq
        cases heq
        exact ⟨f1, h1, ht.hist hl⟩
      · rename_i heq
        cases heq
        obtain ⟨f2, h2, hh2⟩ := ih st1 ag1
        exact ⟨f1 ++ f2, by rw [h1, List.append_assoc, ← h2], (ht.hist hl).append hh2⟩

/-! ## input-level form -/

/-- `find_key` on a buffer that STARTS with a complete keypress `p` (every shorter non-empty prefix is "need more",
    `p` itself is a key) returns exactly that keypress, consumes exactly `p`, whatever follows. -/
theorem C08_find_key_complete (gk : List Nat → Bool → Except PyErr (Option κ)) (val : β → Nat) (p rest : List β) (k : κ)
    (hp : p ≠ []) (hk : gk (p.map val) rest.isEmpty = .ok (some k))
    (hpre : ∀ q, q <+: p → q ≠ [] → q ≠ p → gk (q.map val) false = .ok none) :
    findKey gk val (p ++ rest) [] = (.ok (some k), p, rest) := by
  suffices h : ∀ p2 cur : List β, cur ++ p2 = p → p2 ≠ [] →
      findKey gk val (p2 ++ rest) cur = (.ok (some k), p, rest) from h p [] rfl hp
  intro p2
  induction p2 with
  | nil => intro cur _ h; exact absurd rfl h
  | cons b p2' ih =>
    intro cur hc _
    simp only [List.cons_append]
    unfold findKey
    simp only []
    by_cases he : p2' = []
    · subst he
      have hcur : cur ++ [b] = p := by simpa using hc
      simp only [List.nil_append, hcur, hk]
    · have hflag : (p2' ++ rest).isEmpty = false := by simp [he]
      have hq : gk ((cur ++ [b]).map val) false = .ok none := by
        apply hpre
        · exact ⟨p2', by rw [← hc]; simp⟩
        · simp
        · intro heq
          rw [← hc] at heq
          exact he (List.cons.inj (List.append_cancel_left heq)).2.symm
      rw [hflag, hq]
      exact ih (cur ++ [b]) (by rw [← hc]; simp) he

/-- a complete keypress for the decoder `gk` (`key`: recognised with and without look-ahead) -/
structure IsUnit (gk : List Nat → Bool → Except PyErr (Option κ)) (val : β → Nat) (maxKey : Nat) (u : List β) (k : κ) : Prop where
  ne : u ≠ []
  short : u.length ≤ maxKey
  pre : ∀ q, q <+: u → q ≠ [] → q ≠ u → gk (q.map val) false = .ok none
  key : ∀ full, gk (u.map val) full = .ok (some k)

theorem IsUnit.of_takes {gk : List Nat → Bool → Except PyErr (Option κ)} {val : β → Nat} {m : Nat} {u : List β}
    {k : κ} (short : 0 < u.length ∧ u.length ≤ m)
    (pre : ∀ n < u.length, 0 < n → gk ((u.take n).map val) false = .ok none)
    (key : ∀ full, gk (u.map val) full = .ok (some k)) : IsUnit gk val m u k :=
  ⟨List.length_pos_iff.mp short.1, short.2, fun q hq hne hneq => by
    rw [List.prefix_iff_eq_take.mp hq]
    exact pre _ (Nat.lt_of_le_of_ne hq.length_le fun h => hneq (hq.eq_of_length h)) (List.length_pos_iff.mpr hne), key⟩

/-- a concatenation of complete keypresses: nothing in it has the shape of D12, D15 or D35 -/
inductive Units (gk : List Nat → Bool → Except PyErr (Option κ)) (val : β → Nat) (maxKey : Nat) : List β → Prop
  | nil : Units gk val maxKey []
  | cons (u rest : List β) (k : κ) : IsUnit gk val maxKey u k → Units gk val maxKey rest → Units gk val maxKey (u ++ rest)

theorem Units.append {gk : List Nat → Bool → Except PyErr (Option κ)} {val : β → Nat} {m : Nat} {a b : List β}
    (ha : Units gk val m a) (hb : Units gk val m b) : Units gk val m (a ++ b) := by
  induction ha with
  | nil => simpa using hb
  | cons u rest k hu _ ih => rw [List.append_assoc]; exact Units.cons u _ k hu ih

/-- `hcond`: the first keypress is wholly buffered (>= MAX_KEYPRESS_SIZE bytes are, or nothing more is to come) -/
theorem findKey_units (m : Nat) (buf more : List β)
    (hu : Units gk val m (buf ++ more)) (hne : buf ≠ []) (hcond : m ≤ buf.length ∨ more = []) :
    ∃ u k rest, buf = u ++ rest ∧ u ≠ [] ∧ Units gk val m (rest ++ more) ∧
      findKey gk val buf [] = (.ok (some k), u, rest) := by
  generalize hall : buf ++ more = all at hu
  cases hu with
  | nil => exact absurd (List.append_eq_nil_iff.mp hall).1 hne
  | cons u tail k hunit htail =>
    -- `u` does not reach beyond `buf`: it is too short for that, or nothing follows `buf`
    have key : ∃ rest, buf = u ++ rest ∧ tail = rest ++ more := by
      rcases List.append_eq_append_iff.mp hall with ⟨a', h1, h2⟩ | ⟨c', h1, h2⟩
      · have ha : a' = [] := by
          rcases hcond with h | h
          · have := hunit.short
            rw [h1, List.length_append] at this
            exact List.eq_nil_of_length_eq_zero (by omega)
          · rw [h] at h2; exact (List.append_eq_nil_iff.mp h2.symm).1
        subst ha
        exact ⟨[], by simp [h1], by simp [h2]⟩
      · exact ⟨c', h1, h2⟩
    obtain ⟨rest, hrest, htl⟩ := key
    refine ⟨u, k, rest, hrest, hunit.ne, htl ▸ htail, ?_⟩
    rw [hrest]
    exact C08_find_key_complete gk val u rest k hunit.ne (hunit.key _) hunit.pre

/-- after a read the `hcond` of `findKey_units` holds -/
theorem read_cond (st : InSt β) (hr : P.maxKey ≤ P.readSize) :
    P.maxKey ≤ (nonblockingRead P st).2.unprocessed.length ∨ (nonblockingRead P st).2.osbuf = [] := by
  simp only [nonblockingRead]
  by_cases h : st.osbuf.length ≤ P.readSize
  · exact Or.inr (List.drop_eq_nil_of_le h)
  · refine Or.inl ?_
    simp only [List.length_append, List.length_take]
    omega

theorem topUp_cond (st : InSt β) (hr : P.maxKey ≤ P.readSize) :
    P.maxKey ≤ (topUp P st).unprocessed.length ∨ (topUp P st).osbuf = [] := by
  unfold topUp
  by_cases h : st.unprocessed.length < P.maxKey
  · rw [if_pos h]; exact read_cond P st hr
  · rw [if_neg h]; exact .inl (Nat.le_of_not_lt h)

theorem pasteLoop_units (hr : P.maxKey ≤ P.readSize) :
    ∀ (f : Nat) (acc : List (κ × List β)) (st : InSt β) {e st'}, Units gk val P.maxKey (pend st) →
      pasteLoop P gk val f acc st ≠ (.error (.py e), st') := by
  intro f
  induction f with
  | zero => intro acc st e st' _ h; cases h
  | succ f ih =>
    intro acc st e st' hu h
    have hu1 : Units gk val P.maxKey ((topUp P st).unprocessed ++ (topUp P st).osbuf) :=
      show Units gk val P.maxKey (pend (topUp P st)) from (topUp_same P st).2 ▸ hu
    rcases pasteLoop_cases P gk val f acc st with ⟨-, heq⟩ | ⟨r, used, rest, hk, hs, hne, hc⟩
    · cases heq.symm.trans h
    · obtain ⟨u, k, rest', -, -, hrest, hfk⟩ := findKey_units gk val P.maxKey (topUp P st).unprocessed (topUp P st).osbuf
        hu1 (hs ▸ List.append_ne_nil_of_left_ne_nil hne rest) (topUp_cond P st hr)
      rw [hfk] at hk
      cases hk
      rcases hc with ⟨k', -, heq⟩ | ⟨e', he, -⟩
      · exact ih _ { topUp P st with unprocessed := rest } hrest (heq.symm.trans h)
      · cases he

variable {gk} {val} in
theorem Decoded.units {m : Nat} {s s' : InSt β} {more : List β} {e : PyErr}
    (h : Decoded gk val s (.error (.py e)) s') (hu : Units gk val m (s.unprocessed ++ more))
    (hc : m ≤ s.unprocessed.length ∨ more = []) : False := by
  cases h with
  | raise hk hs hne =>
    obtain ⟨u, k, rest', -, -, -, hfk⟩ := findKey_units gk val m s.unprocessed more hu
      (hs ▸ List.append_ne_nil_of_left_ne_nil hne _) hc
    cases hk.symm.trans hfk

variable {P} {gk} {val} in
theorem ReadEnd.units (hr : P.maxKey ≤ P.readSize) {st s' : InSt β} {e : PyErr}
    (h : ReadEnd P gk val st (.error (.py e)) s') (hu : Units gk val P.maxKey (pend st)) : False := by
  have hu1 : Units gk val P.maxKey (pend (nonblockingRead P st).2) := (read_same P st).2 ▸ hu
  cases h with
  | paste _ hpl => exact pasteLoop_units P gk val hr _ _ _ hu1 hpl
  | key _ hd => exact hd.units hu1 (read_cond P st hr)

def PayloadUnits (gk : List Nat → Bool → Except PyErr (Option κ)) (val : β → Nat) (m : Nat) (ag : Agenda β) : Prop :=
  ∀ x ∈ ag, Units gk val m (bOf x.2)

theorem envB_units {gk : List Nat → Bool → Except PyErr (Option κ)} {val : β → Nat} {m : Nat} (f : Agenda β)
    (h : PayloadUnits gk val m f) : Units gk val m (envB f) := by
  induction f with
  | nil => exact Units.nil
  | cons x xs ih =>
    show Units gk val m (bOf x.2 ++ envB xs)
    exact (h x List.mem_cons_self).append (ih fun y hy => h y (List.mem_cons_of_mem _ hy))

theorem sendRest_units (hr : P.maxKey ≤ P.readSize) (wf : Nat) (tuc : Option Time) (st : InSt β) (ag : Agenda β)
    (hu : Units gk val P.maxKey st.unprocessed) (ho : Units gk val P.maxKey st.osbuf)
    (ha : PayloadUnits gk val P.maxKey ag) :
    ∀ e, (sendRest P gk val wf tuc st ag).1 ≠ .error (.py e) := by
  intro e h
  obtain ⟨st', ag', hsr⟩ := triple_of_fst h
  rcases sendRest_spec hsr with ⟨-, hk⟩ | ⟨-, fired, mid, hran, hend⟩
  · exact hk.units (more := []) (by simpa using hu) (.inr rfl)
  · cases hend with
    | read _ he =>
      refine he.units hr ?_
      rw [show pend (sorted mid) = pend mid from rfl, hran.grew.b]
      exact (hu.append ho).append (envB_units fired fun x hx => ha x (hran.split ▸ List.mem_append_left _ hx))

/-- INPUT-LEVEL NO-LOSS: if what is buffered, what the OS holds and every byte string that arrives (or is ungot)
    while the request runs are concatenations of complete keypresses for the decoder - i.e. contain nothing of the
    shape of D12 (prefix + high byte), D15 (truncated keypress) or D35 (ill-formed UTF-8) - then the request does not
    raise, hence (`C08_exactly_once_partial`) loses nothing.  (`hr`: input.py:33 asserts READ_SIZE >= MAX_KEYPRESS_SIZE.) -/
theorem C08_no_loss_wellformed (P : Params) (gk : List Nat → Bool → Except PyErr (Option κ)) (val : β → Nat)
    (hr : P.maxKey ≤ P.readSize) (wf : Nat) (st : InSt β) (ag : Agenda β) (timeout : Option Time)
    (hu : Units gk val P.maxKey st.unprocessed) (ho : Units gk val P.maxKey st.osbuf)
    (ha : PayloadUnits gk val P.maxKey ag) :
    ∀ e, (send P gk val wf st ag timeout).1 ≠ .error (.py e) := by
  intro e
  rcases send_cases P gk val wf st ag timeout with ⟨ev, st', -, h⟩ | ⟨-, tuc, -, h⟩
  · rw [h]; nofun
  · rw [h]; exact sendRest_units P gk val hr wf tuc (sorted st) ag hu ho ha e

/-! ## the fuel suffices -/

theorem waitMeasure_lt_fuel (st : InSt β) (ag : Agenda β) : waitMeasure st ag < waitFuelFor st ag := by
  unfold waitMeasure waitFuelFor
  simp only [PIPE_WRITE]
  omega

theorem C08_wait_fuel (P : Params) (timeout : Option Time) (t0 : Time) (remaining : Option Time)
    (st : InSt β) (ag : Agenda β) :
    (waitLoop (κ := κ) P timeout t0 (waitFuelFor st ag) remaining st ag).1 ≠ .error .outOfFuel :=
  (waitLoop_spec (κ := κ) P timeout t0 (waitFuelFor st ag) remaining st ag).enough (waitMeasure_lt_fuel st ag)

theorem C08_paste_fuel (P : Params) (gk : List Nat → Bool → Except PyErr (Option κ)) (val : β → Nat) (st : InSt β) :
    (pasteLoop P gk val (pasteFuel st) [] st).1 ≠ .error .outOfFuel := by
  rcases h : pasteLoop P gk val (pasteFuel st) [] st with ⟨r, st'⟩
  exact (pasteLoop_spec h).fuel (by unfold pasteFuel; omega)

theorem sendRest_not_fuel (wf : Nat) (tuc : Option Time) (st : InSt β) (ag : Agenda β) (hf : waitMeasure st ag < wf) :
    (sendRest P gk val wf tuc st ag).1 ≠ .error .outOfFuel := by
  intro h
  obtain ⟨st', ag', hsr⟩ := triple_of_fst h
  rcases sendRest_spec hsr with ⟨-, hk⟩ | ⟨-, fired, mid, hran, hend⟩
  · cases hk
  · cases hend with
    | fuel hle => exact Nat.not_le_of_lt hf hle
    | read _ he => exact nomatch he.answered.1.res

/-- `Fail.outOfFuel` is unreachable: with the fuel `run` gives it (`waitFuelFor st ag`) a request never answers it,
    neither from the wait loop nor from the paste loop.  The fuel arguments are proof devices only. -/
theorem C08_no_out_of_fuel (P : Params) (gk : List Nat → Bool → Except PyErr (Option κ)) (val : β → Nat)
    (st : InSt β) (ag : Agenda β) (timeout : Option Time) :
    (send P gk val (waitFuelFor st ag) st ag timeout).1 ≠ .error .outOfFuel := by
  rcases send_cases P gk val (waitFuelFor st ag) st ag timeout with ⟨ev, st', -, h⟩ | ⟨-, tuc, -, h⟩
  · rw [h]; nofun
  · rw [h]
    exact sendRest_not_fuel P gk val _ tuc (sorted st) ag (waitMeasure_lt_fuel st ag)

end Send

end Curtsies
