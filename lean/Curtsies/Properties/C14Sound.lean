/-
  C14 (continued) - `parse_args` is sound and complete for `denote` and raises nothing but ValueError
  (`parseArgs_eq_denote`, `parseArgs_error` at the live tables); what follows for `fmtstr`, and for the attribute dict of
  an existing FmtStr passed back as keywords.
-/
import Curtsies.Properties.C14
namespace Curtsies

theorem C14_sound_complete : C14_full_statement := by
  intro lower args kw hnd
  rw [parseArgs_eq_denote C14_tables lower args kw hnd]
  cases denote lower args kw <;> simp

/-- The only exception `parse_args` raises is ValueError.  `hnd` is not used: `parseArgs_error` holds with repeated
    keyword names as well (`C14_error_kind_weak`). -/
theorem C14_error_kind (lower : String → String) (args : List ArgVal) (kw : Kw) (hnd : (kw.map Prod.fst).Nodup)
    (e : PyErr) (h : parseArgs lower args kw = .error e) : e = .valueError :=
  parseArgs_error C14_tables lower args kw e h

theorem get?_piece {γ : Type} (o : Option γ) (key : String) (g : γ → ArgVal) (k : String) :
    Kw.get? ((o.map fun v => (key, g v)).toList) k = if key = k then o.map g else none := by
  cases o with
  | none => simp [Kw.get?]
  | some v => simp [Kw.get?]

theorem toKw_get (a : Atts) :
    a.toKw.get? "bg" = a.bg.map (fun c => ArgVal.int (40 + c.val)) ∧
    a.toKw.get? "blink" = a.blink.map ArgVal.bool ∧ a.toKw.get? "bold" = a.bold.map ArgVal.bool ∧
    a.toKw.get? "dark" = a.dark.map ArgVal.bool ∧
    a.toKw.get? "fg" = a.fg.map (fun c => ArgVal.int (30 + c.val)) ∧
    a.toKw.get? "invert" = a.invert.map ArgVal.bool ∧ a.toKw.get? "italic" = a.italic.map ArgVal.bool ∧
    a.toKw.get? "underline" = a.underline.map ArgVal.bool ∧ a.toKw.get? "style" = none := by
  simp only [Atts.toKw, Kw.get?_append, get?_piece]
  simp

theorem keys_piece {γ : Type} (o : Option γ) (key : String) (g : γ → ArgVal) :
    List.Sublist (((o.map fun v => (key, g v)).toList).map Prod.fst) [key] := by
  cases o <;> simp

theorem toKw_keys (a : Atts) : List.Sublist (a.toKw.map Prod.fst) attKeys := by
  simp only [Atts.toKw, List.map_append]
  exact ((((((( (keys_piece _ _ _).append (keys_piece _ _ _)).append (keys_piece _ _ _)).append (keys_piece _ _ _)).append
    (keys_piece _ _ _)).append (keys_piece _ _ _)).append (keys_piece _ _ _)).append (keys_piece _ _ _))

/-- `fmtstr(text, **atts)` for the attribute dict of an existing FmtStr: `parse_args` accepts such a dict
    unchanged (for every `lower`). -/
theorem C14_parse_own_atts (lower : String → String) (a : Atts) : parseArgs lower [] a.toKw = .ok a := by
  have hsub := toKw_keys a
  have hnd : (a.toKw.map Prod.fst).Nodup := (by decide : attKeys.Nodup).sublist hsub
  suffices hd : denote lower [] a.toKw = some a by rw [parseArgs_eq_denote C14_tables lower [] a.toKw hnd, hd]
  obtain ⟨g1, g2, g3, g4, g5, g6, g7, g8, gs⟩ := toKw_get a
  have hdel : Kw.del a.toKw "style" = a.toKw := Kw.del_none _ _ gs
  have hknown : (a.toKw.all fun p => isKnownKey p.1) = true := List.all_eq_true.mpr fun p hp =>
    (attKeys_iff p.1).mp (List.contains_iff_mem.mpr (hsub.subset (List.mem_map_of_mem hp)))
  have rc : ∀ (table : List (String × Nat)) (base : Int) (o : Option (Fin 8)),
      resolveColour table base (o.map fun c => ArgVal.int (base + c.val)) [] = some o := by
    intro table base o
    cases o with
    | none => rfl
    | some c => simp [resolveColour, kwColour, specColour_eq, colourIndex_base]
  have rs : ∀ o : Option Bool, resolveStyle (o.map ArgVal.bool) false = some o := by
    intro o; cases o <;> rfl
  simp only [denote, gs, Option.toList_none, List.append_nil, hdel, List.mapM_nil, hknown, if_true,
    g1, g2, g3, g4, g5, g6, g7, g8]
  have r1 := rc Generated.bgColors 40 a.bg
  have r2 := rc Generated.fgColors 30 a.fg
  simp [r1, r2, rs]

/-- `fmtstr(f, *args, **kwargs)` against the denotation: the call succeeds exactly on valid specifications, and then
    every character keeps its text and has its dict overridden by the denoted attributes (`C14_override`); an invalid
    specification raises ValueError and builds nothing. -/
theorem C14_fmtstr_denote (lower : String → String) (f : FmtStr) (args : List ArgVal) (kw : Kw)
    (hnd : (kw.map Prod.fst).Nodup) :
    (∀ r, fmtstrApply lower f args kw = .ok r ↔ ∃ a, denote lower args kw = some a ∧ r = copyWithNewAtts f a) ∧
    (∀ a, denote lower args kw = some a → ∃ r, fmtstrApply lower f args kw = .ok r ∧
        cells r = (cells f).map fun p => (p.1, p.2.extend a)) ∧
    (denote lower args kw = none → fmtstrApply lower f args kw = .error .valueError) := by
  unfold fmtstrApply
  rw [parseArgs_eq_denote C14_tables lower args kw hnd]
  cases denote lower args kw with
  | none =>
    refine ⟨fun r => ⟨?_, ?_⟩, ?_, fun _ => rfl⟩
    · intro h; cases h
    · rintro ⟨a, ha, _⟩; cases ha
    · intro a ha; cases ha
  | some a =>
    refine ⟨fun r => ⟨?_, ?_⟩, ?_, ?_⟩
    · intro h
      injection h with h
      exact ⟨a, rfl, h.symm⟩
    · rintro ⟨b, hb, hr⟩
      injection hb with hb
      rw [hr, hb]
    · intro b hb
      injection hb with hb
      subst hb
      exact ⟨_, rfl, C14_apply f a⟩
    · intro h; cases h

/-- Non-vacuity: an ordinary valid call, and its keyword names are distinct (`hnd`). -/
example : parseArgs idl [.str "red", .str "bold"] [("bg", .int 44), ("underline", .bool false)]
    = .ok { fg := some 1, bold := some true, bg := some 4, underline := some false } := by decide +kernel
example : ([("bg", ArgVal.int 44), ("underline", .bool false)].map Prod.fst).Nodup := by decide

end Curtsies
