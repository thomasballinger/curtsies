/-
  C01 - str(FmtStr) displays exactly its characters and formatting, then resets.

  `Spec.display` (Spec/Sgr.lean) is the independent terminal reader: it returns the displayed cells with the
  graphic state each was written under, the final graphic state, every control function that was not a
  supported SGR sequence, and the reader mode at the end.

  Hypothesis (from the property's quantifier): the text of `f` contains neither ESC nor the 8-bit CSI.
  Quantified over every run list (no runs, empty runs), every attribute dict over the eight legal keys
  (9 x 9 x 3^6 per run, explicit `False` included) and every such text.
  The `C01_table_*` theorems tie the model's constants to the tables REGENERATED from /repo on every run
  (Generated/Sgr.lean): an edit of termformatconstants.py / the xform lambdas re-opens these obligations.
-/
import Curtsies.Proofs.Sgr
import Curtsies.Generated.Sgr
namespace Curtsies
open Spec

/-- What a terminal in its default graphic state shows for `str(f)`: exactly the characters of `f`, in order,
    each under exactly its effective attributes; the graphic state is back at its default at the end; there
    is no control function other than supported SGR sequences; the string does not end inside a sequence. -/
theorem C01_display (f : FmtStr) (h : ∀ ch ∈ text f, ch ≠ Curtsies.ESC ∧ ch ≠ Curtsies.CSI8) :
    display (render f) = { cells := effCells f, final := {}, ctls := [], mode := .ground } := by
  unfold display
  induction f with
  | nil => rfl
  | cons c f ih =>
    simp only [text, List.flatMap_cons, List.forall_mem_append] at h
    rw [render, List.flatMap_cons, feed_chunk c _ h.1, ← render, ih h.2]
    simp [effCells, Chunk.cells, List.map_map, Function.comp_def]

/-- The displayed characters are exactly the text of `f`. -/
theorem C01_text (f : FmtStr) (h : ∀ ch ∈ text f, ch ≠ Curtsies.ESC ∧ ch ≠ Curtsies.CSI8) :
    (display (render f)).cells.map Prod.fst = text f := by
  rw [C01_display f h, text_eq_effCells]

/-- Apart from the text, `str(f)` consists of SGR sequences only: it is, run by run,
    `seq`s of supported codes, the run's text, `seq`s of supported codes. -/
theorem C01_only_sgr (c : Chunk) :
    c.colorStr = (openCodes c.atts).flatMap seq ++ c.s ++ (closeCodes c.atts).flatMap seq ∧
    (∀ n ∈ openCodes c.atts, n ∈ supported) ∧ (∀ n ∈ closeCodes c.atts, n ∈ supported) :=
  ⟨colorStr_eq c, openCodes_supported c.atts, closeCodes_supported c.atts⟩

/-- Whole-string form of `C01_only_sgr`. -/
theorem C01_only_sgr_string (f : FmtStr) :
    render f = f.flatMap (fun c => (openCodes c.atts).flatMap seq ++ c.s ++ (closeCodes c.atts).flatMap seq) ∧
    ∀ c ∈ f, (∀ n ∈ openCodes c.atts, n ∈ supported) ∧ (∀ n ∈ closeCodes c.atts, n ∈ supported) :=
  ⟨congrArg (fun g => f.flatMap g) (funext colorStr_eq),
    fun c _ => ⟨openCodes_supported c.atts, closeCodes_supported c.atts⟩⟩

/-- The code points of `t`: Generated/Sgr.lean holds the live module's strings as lists of code points. -/
def cps (t : Text) : List Nat := t.map Char.toNat

/-- `seq(n)` of the live module, for every code the library uses, is the model's `seq n`; the set of those codes
    is `supported`. -/
theorem C01_table_seq : Generated.seqTable = supported.map fun n => (n, cps (seq n)) := by decide +kernel

/-- the live `one_arg_xforms` lambdas wrap with `seq(STYLES[k])` ... `seq(RESET_ALL)` as the model does -/
theorem C01_table_one_arg : Generated.oneArgXforms =
    [("blink", cps (seq 5), cps (seq RESET_ALL)), ("bold", cps (seq 1), cps (seq RESET_ALL)),
     ("dark", cps (seq 2), cps (seq RESET_ALL)), ("invert", cps (seq 7), cps (seq RESET_ALL)),
     ("italic", cps (seq 3), cps (seq RESET_ALL)), ("underline", cps (seq 4), cps (seq RESET_ALL))] := by
  decide +kernel

/-- the live `two_arg_xforms` lambdas, applied to every distinct colour VALUE of the live colour tables -/
theorem C01_table_two_arg : Generated.twoArgXforms =
    (List.finRange 8).map (fun i => ("bg", bgCode i, cps (seq (bgCode i)), cps (seq RESET_BG))) ++
    (List.finRange 8).map (fun i => ("fg", fgCode i, cps (seq (fgCode i)), cps (seq RESET_FG))) := by
  decide +kernel

/-- The reset codes and the style table are the model's; the colour tables' VALUES are exactly the model's eight
    foreground / background codes (a name table may give one code several names - aliases - but `str(f)` only ever
    sees the numeric value). -/
theorem C01_table_consts : Generated.resetAll = RESET_ALL ∧ Generated.resetFg = RESET_FG ∧
    Generated.resetBg = RESET_BG ∧
    (∀ p ∈ Generated.fgColors, ∃ i : Fin 8, p.2 = fgCode i) ∧ (∀ i : Fin 8, fgCode i ∈ Generated.fgColors.map Prod.snd) ∧
    (∀ p ∈ Generated.bgColors, ∃ i : Fin 8, p.2 = bgCode i) ∧ (∀ i : Fin 8, bgCode i ∈ Generated.bgColors.map Prod.snd) ∧
    Generated.styles = [("bold", 1), ("dark", 2), ("italic", 3), ("underline", 4), ("blink", 5), ("invert", 7)] := by
  decide +kernel

/-- Python's `sorted()` order of the attribute names is the order `Chunk.colorStr` wraps in
    (`Key.all`, the field order of `Atts`). -/
theorem C01_table_order : Generated.sortedXformKeys =
    ["bg", "blink", "bold", "dark", "fg", "invert", "italic", "underline"] ∧
    Key.all = [.bg, .blink, .bold, .dark, .fg, .invert, .italic, .underline] := by decide

/-- Non-vacuity: a bold red-on-blue run with a newline next to an empty run and an explicitly non-bold run. -/
example : display (render [⟨['a', '\n'], {fg := some 1, bg := some 4, bold := some true}⟩, ⟨[], {}⟩,
      ⟨['b'], {bold := some false, underline := some true}⟩])
    = { cells := [('a', {fg := some 1, bg := some 4, bold := true}), ('\n', {fg := some 1, bg := some 4, bold := true}),
                  ('b', {underline := true})], final := {}, ctls := [], mode := .ground } := by
  rw [C01_display _ (by decide)]; rfl

end Curtsies
