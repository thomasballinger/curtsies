/-
  C09 (extension) - `FmtStr.setitem(startindex, fs)`, the shim "for easily converting old __setitem__ calls" over
  `setslice_with_length` (`Splice.setitemOp`, Model/SpliceOp.lean).
-/
import Curtsies.Proofs.FSArray
namespace Curtsies
open FSArray Splice

/-- `f.setitem(i, x)` is `f.setslice_with_length(i, i + 1, x, len(f))`. -/
theorem C09_setitem (md : Nat) (f : FmtStr) (startindex : Nat) (fs : Operand) :
    setitemOp md f startindex fs = setsliceOp md f startindex (startindex + 1) fs (len f) := rfl

/-- For `i < len(f)` and a one-character value (FmtStr, or a plain str without `ESC [`), `f.setitem(i, x)` is `f` with
    character `i` replaced by `x`'s, every other character keeping its formatting. -/
theorem C09_setitem_replace_partial (md : Nat) (f : FmtStr) (i : Nat) (x : Operand) (hi : i < len f)
    (h1 : x.rawLen = 1) (hesc : x.EscFree) :
    ∃ r, setitemOp md f i x = .ok r ∧ cells r = (cells f).take i ++ x.cells ++ (cells f).drop (i + 1) ∧
      len r = len f := by
  obtain ⟨r, hr, hc⟩ := setsliceOp_ok md f x i (i + 1) (len f) (Nat.le_succ i) (by omega) (Nat.le_refl _) (by omega)
    (NoEsc_of_EscFree x hesc)
  have hF : i + 1 ≤ (cells f).length := by rw [cells_length]; exact hi
  have hX : x.cells.length = i + 1 - i := by rw [cells_rawLen, h1, Nat.add_sub_cancel_left]
  rw [setCells_exact _ _ i (i + 1) (Nat.le_of_succ_le hF) hX] at hc
  exact ⟨r, hr, hc, by rw [← cells_length r, hc, length_splice _ _ _ _ (Nat.le_succ i) hF hX, cells_length]⟩

/-- A value longer than one character is rejected when characters follow position `i` (AssertionError) - `setitem`
    never changes the length of a string it does not extend. -/
theorem C09_setitem_reject_partial (md : Nat) (f : FmtStr) (i : Nat) (x : Operand) (hi : i + 1 < len f)
    (h1 : x.rawLen > 1) (hesc : x.EscFree) : ∃ e, setitemOp md f i x = .error e :=
  setsliceOp_reject md f x i (i + 1) (len f) (by omega) (by omega) (NoEsc_of_EscFree x hesc) (Or.inl hi)

example : ((setitemOp 4300 [⟨['a', 'b'], { fg := some 1 }⟩, ⟨['c'], {}⟩] 1 (.str ['X'])).toOption.map cells)
    = some [('a', { fg := some 1 }), ('X', {}), ('c', {})] := by decide +kernel

end Curtsies
