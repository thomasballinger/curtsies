/-
  What a specification given to `fmtstr` / `parse_args` (curtsies/formatstring.py) MEANS, read per attribute - who names
  it, and is that consistent - without following `parse_args`' control flow: `denote`.
-/
import Curtsies.Model.ParseArgs
namespace Curtsies

/-- The six styles (a new STYLE would change rendering, so this table stays an equality). -/
def styleTable : List (String × Nat) :=
  [("bold", 1), ("dark", 2), ("italic", 3), ("underline", 4), ("blink", 5), ("invert", 7)]
def styleNames : List (String × Key) :=
  [("bold", .bold), ("dark", .dark), ("italic", .italic), ("underline", .underline), ("blink", .blink), ("invert", .invert)]

/-- What the specification needs of the LIVE colour tables (`FG_COLORS`, `BG_COLORS`, regenerated every run) - any
    table of names, aliases included, will do as long as it is well-formed:
    every foreground value is one of the codes 30..37 and each of them has at least one name; likewise 40..47;
    both tables have the same names in the same order and a name's background code is its foreground code + 10
    (so `on_<name>` is the background of the SAME colour); the style table is the six styles. -/
def TablesWF : Prop :=
  (∀ p ∈ Generated.fgColors, 30 ≤ p.2 ∧ p.2 < 38) ∧
  (∀ i : Fin 8, Generated.fgColors.any (fun p => p.2 == 30 + i.val) = true) ∧
  (∀ p ∈ Generated.bgColors, 40 ≤ p.2 ∧ p.2 < 48) ∧
  (∀ i : Fin 8, Generated.bgColors.any (fun p => p.2 == 40 + i.val) = true) ∧
  Generated.bgColors = Generated.fgColors.map (fun p => (p.1, p.2 + 10)) ∧
  Generated.styles = styleTable

/-- A colour number `base .. base+7` as an index 0..7 (the specification's own reading; it does not use the
    model's helpers). -/
def specColour (base : Int) (i : Int) : Option (Fin 8) :=
  if h : base ≤ i ∧ i < base + 8 then some ⟨(i - base).toNat, by omega⟩ else none

/-- A colour given by name (looked up in `table`), as an index 0..7. -/
def colourOfName (table : List (String × Nat)) (base : Int) (s : String) : Option (Fin 8) :=
  (table.lookup s).bind fun code => specColour base code

def onPrefix (l : String) : Bool := l.toList.take 3 == ['o', 'n', '_']
def afterOn (s : String) : String := String.ofList (s.toList.drop 3)

/-- What one positional argument names (case-insensitively): a foreground colour, `on_` + a background
    colour, or a style; `none` = nothing (unknown name or not a string). -/
def posName (lower : String → String) : ArgVal → Option (Key × Option (Fin 8))
  | .str s =>
    match colourOfName Generated.fgColors 30 (lower s) with
    | some c => some (.fg, some c)
    | none =>
      match (if onPrefix (lower s) then colourOfName Generated.bgColors 40 (lower (afterOn s)) else none) with
      | some c => some (.bg, some c)
      | none => (styleNames.lookup (lower s)).map fun k => (k, none)
  | _ => none

/-- The colour a keyword value stands for: a colour name or an in-range int (a bool or float is neither). -/
def kwColour (table : List (String × Nat)) (base : Int) : ArgVal → Option (Fin 8)
  | .str s => colourOfName table base s
  | .int i => specColour base i
  | _ => none

/-- A colour attribute: named at most once, by keyword (`kwv`) or by one positional (`pos`).
    Outer `none` = invalid specification; `some none` = not named. -/
def resolveColour (table : List (String × Nat)) (base : Int) (kwv : Option ArgVal) (pos : List (Fin 8)) :
    Option (Option (Fin 8)) :=
  match kwv, pos with
  | none, [] => some none
  | none, [c] => some (some c)
  | some v, [] => (kwColour table base v).map some
  | _, _ => none

/-- A style attribute: a keyword value must be a bool; positional mentions mean `True` and must not
    contradict the keyword. -/
def resolveStyle (kwv : Option ArgVal) (posNamed : Bool) : Option (Option Bool) :=
  match kwv, posNamed with
  | none, false => some none
  | none, true => some (some true)
  | some (.bool b), false => some (some b)
  | some (.bool true), true => some (some true)
  | _, _ => none

def Key.name : Key → String
  | .bg => "bg" | .blink => "blink" | .bold => "bold" | .dark => "dark" | .fg => "fg"
  | .invert => "invert" | .italic => "italic" | .underline => "underline"

def isKnownKey (s : String) : Bool := Key.all.any fun k => k.name == s

/-- The attribute dict a specification denotes; `none` = the specification is invalid. -/
def denote (lower : String → String) (args : List ArgVal) (kwargs : Kw) : Option Atts :=
  let args := args ++ (kwargs.get? "style").toList         -- `style=x` is one more positional
  let kw := kwargs.del "style"
  match args.mapM (posName lower) with
  | none => none                                           -- some positional names nothing
  | some named =>
    if kw.all (fun p => isKnownKey p.1) then do
      let cols (k : Key) : List (Fin 8) := named.filterMap fun p => if p.1 = k then p.2 else none
      let has (k : Key) : Bool := named.any fun p => p.1 = k
      let bg ← resolveColour Generated.bgColors 40 (kw.get? "bg") (cols .bg)
      let blink ← resolveStyle (kw.get? "blink") (has .blink)
      let bold ← resolveStyle (kw.get? "bold") (has .bold)
      let dark ← resolveStyle (kw.get? "dark") (has .dark)
      let fg ← resolveColour Generated.fgColors 30 (kw.get? "fg") (cols .fg)
      let invert ← resolveStyle (kw.get? "invert") (has .invert)
      let italic ← resolveStyle (kw.get? "italic") (has .italic)
      let underline ← resolveStyle (kw.get? "underline") (has .underline)
      pure { bg, blink, bold, dark, fg, invert, italic, underline }
    else none                                              -- unknown keyword

end Curtsies
