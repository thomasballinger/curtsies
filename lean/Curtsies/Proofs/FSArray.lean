/- C04's machinery. A row is read through `padCell` (blank beyond its end), an array through `shown`/`grid` (blank
   below the last row too): padding with blanks never shows, so `setslice_with_length` and `a[r, c] = value` are
   described by what they do to the stored cells (`setCells`) and then read cell by cell. -/
import Curtsies.Model.FSArray
import Curtsies.Proofs.Splice
import Curtsies.Proofs.Slice
import Curtsies.Proofs.Atts
namespace Curtsies.FSArray
open Curtsies Curtsies.Splice

theorem getElem?_splice (l new : List α) (s e : Nat) (hse : s ≤ e) (hl : e ≤ l.length)
    (hn : new.length = e - s) (i : Nat) :
    (l.take s ++ new ++ l.drop e)[i]? = if s ≤ i ∧ i < e then new[i - s]? else l[i]? := by
  have hA : (l.take s).length = s := List.length_take_of_le (Nat.le_trans hse hl)
  rw [List.append_assoc]
  rcases Nat.lt_or_ge i s with h | h
  · rw [List.getElem?_append_left (by rw [hA]; exact h), List.getElem?_take_of_lt h,
      if_neg fun hc => Nat.not_le_of_lt h hc.1]
  · rw [List.getElem?_append_right (by rw [hA]; exact h), hA]
    rcases Nat.lt_or_ge i e with h' | h'
    · rw [List.getElem?_append_left (by rw [hn]; exact Nat.sub_lt_sub_right h h'), if_pos ⟨h, h'⟩]
    · rw [List.getElem?_append_right (by rw [hn]; exact Nat.sub_le_sub_right h' s), List.getElem?_drop,
        if_neg fun hc => Nat.not_lt_of_le h' hc.2, hn]
      congr 1; omega

theorem length_splice (l new : List α) (s e : Nat) (hse : s ≤ e) (hl : e ≤ l.length) (hn : new.length = e - s) :
    (l.take s ++ new ++ l.drop e).length = l.length := by
  rw [List.length_append, List.length_append, List.length_take_of_le (Nat.le_trans hse hl), List.length_drop, hn]
  omega

theorem length_take_pad (l : List α) (k : Nat) (d : α) : (l.take k ++ List.replicate (k - l.length) d).length = k := by
  rw [List.length_append, List.length_take, List.length_replicate]; omega

theorem length_pad (l : List α) {k : Nat} (d : α) (h : l.length ≤ k) :
    (l ++ List.replicate (k - l.length) d).length = k := by
  rw [List.length_append, List.length_replicate, Nat.add_sub_cancel' h]

theorem getD_append_replicate (l : List α) (k p : Nat) (d : α) :
    ((l ++ List.replicate k d)[p]?).getD d = (l[p]?).getD d := by
  rcases Nat.lt_or_ge p l.length with h | h
  · rw [List.getElem?_append_left h]
  · rw [List.getElem?_append_right h, List.getElem?_replicate, List.getElem?_eq_none h]
    split <;> rfl

/-- What an unset cell shows: an unformatted space (also what `setslice_with_length` pads with). -/
def blankCell : Cell := (' ', {})
/-- Cell `c` of a list of cells read as a row: blank beyond its end. -/
def padCell (l : List Cell) (c : Nat) : Cell := (l[c]?).getD blankCell
def rowCell (f : FmtStr) (c : Nat) : Cell := padCell (cells f) c

theorem padCell_of_le {l : List Cell} {c : Nat} (h : l.length ≤ c) : padCell l c = blankCell := by
  rw [padCell, List.getElem?_eq_none h]; rfl

theorem padCell_append_left {A : List Cell} (B : List Cell) {c : Nat} (h : c < A.length) :
    padCell (A ++ B) c = padCell A c := by
  rw [padCell, padCell, List.getElem?_append_left h]

theorem padCell_append_right {A : List Cell} (B : List Cell) {c : Nat} (h : A.length ≤ c) :
    padCell (A ++ B) c = padCell B (c - A.length) := by
  rw [padCell, padCell, List.getElem?_append_right h]

theorem padCell_append_blanks (l : List Cell) (k c : Nat) :
    padCell (l ++ List.replicate k blankCell) c = padCell l c := getD_append_replicate l k c blankCell

/-- The cells `setslice_with_length(c0, c1, v, _)` produces from a row with cells `F` and a value with cells `V`
    (when it does not raise); `c0 - F.length` blanks in front: none unless the row ends before the region. -/
def setCells (F V : List Cell) (c0 c1 : Nat) : List Cell :=
  let V1 := List.replicate (c0 - F.length) blankCell ++ V
  let V2 := if F.length > c1 then V1 ++ List.replicate (c1 - c0 - V1.length) blankCell else V1
  F.take c0 ++ V2 ++ F.drop c1

theorem padCell_setCells (F V : List Cell) (c0 c1 : Nat) (h01 : c0 ≤ c1) (hV : V.length ≤ c1 - c0) (c : Nat) :
    padCell (setCells F V c0 c1) c = if c0 ≤ c ∧ c < c1 then padCell V (c - c0) else padCell F c := by
  unfold setCells
  simp only []
  by_cases h2 : F.length > c1
  · -- the row continues past the region: the value, padded to the width of the region, fills the gap exactly
    rw [if_pos h2, Nat.sub_eq_zero_of_le (show c0 ≤ F.length by omega), List.replicate_zero, List.nil_append]
    simp only [padCell]
    rw [getElem?_splice F _ c0 c1 h01 (Nat.le_of_lt h2) (length_pad V _ hV)]
    split
    · exact padCell_append_blanks V _ _
    · rfl
  · -- the row ends inside or before the region: nothing follows the value; in front of it, the row padded to `c0`
    have e := length_take_pad F c0 blankCell
    rw [if_neg h2, List.drop_eq_nil_of_le (Nat.le_of_not_lt h2), List.append_nil, ← List.append_assoc]
    rcases Nat.lt_or_ge c c0 with h | h
    · rw [if_neg (fun hc => Nat.not_le_of_lt h hc.1), padCell_append_left _ (by rw [e]; exact h), padCell_append_blanks]
      simp only [padCell, List.getElem?_take_of_lt h]
    · rw [padCell_append_right _ (by rw [e]; exact h), e]
      split
      · rfl
      · rw [padCell_of_le (by omega), padCell_of_le (by omega)]

theorem setCells_exact (F V : List Cell) (c0 c1 : Nat) (h0 : c0 ≤ F.length) (hV : V.length = c1 - c0) :
    setCells F V c0 c1 = F.take c0 ++ V ++ F.drop c1 := by
  unfold setCells
  simp only []
  rw [Nat.sub_eq_zero_of_le h0, List.replicate_zero, List.nil_append, hV, Nat.sub_self, List.replicate_zero,
    List.append_nil, ite_self]

theorem length_setCells (F V : List Cell) (c0 c1 : Nat) (h01 : c0 ≤ c1)
    (h : ¬ (c1 < F.length ∧ c1 - c0 < V.length)) :
    (setCells F V c0 c1).length = if c1 < F.length then F.length else c0 + V.length := by
  unfold setCells
  split
  · -- the row continues past the region
    rename_i h2
    rw [Nat.sub_eq_zero_of_le (by omega : c0 ≤ F.length), List.replicate_zero, List.nil_append]
    exact length_splice _ _ c0 c1 h01 (Nat.le_of_lt h2) (length_pad _ _ (by omega))
  · rename_i h2
    rw [List.drop_eq_nil_of_le (Nat.le_of_not_lt h2), List.append_nil, ← List.append_assoc, List.length_append,
      length_take_pad]

theorem plainCells_spaces (k : Nat) : plainCells (spaces k) = List.replicate k blankCell := List.map_replicate

theorem padLeft_cells (k : Nat) (o : Operand) : (padLeft k o).cells = List.replicate k blankCell ++ o.cells := by
  rw [← plainCells_spaces]
  cases o with
  | str t => exact List.map_append
  | fmt f => exact cells_raddStr f (spaces k)
theorem padRight_cells (k : Nat) (o : Operand) : (padRight k o).cells = o.cells ++ List.replicate k blankCell := by
  rw [← plainCells_spaces]
  cases o with
  | str t => exact List.map_append
  | fmt f => exact cells_addStr f (spaces k)

theorem NoEsc_padLeft (k : Nat) (o : Operand) (h : NoEsc o) : NoEsc (padLeft k o) := by
  cases o with
  | fmt f => trivial
  | str t => simpa only [NoEsc, padLeft, hasEscBracket_spaces_append] using h

theorem NoEsc_padRight (k : Nat) (o : Operand) (h : NoEsc o) : NoEsc (padRight k o) := by
  cases o with
  | fmt f => trivial
  | str t => simpa only [NoEsc, padRight, hasEscBracket_append_spaces] using h

/-- `setslice_with_length` for `c0 ≤ c1`: the assert fires exactly when the row continues past the region and the
    value is longer than the region; otherwise the result is accepted iff it is not longer than `W`. -/
theorem setsliceOp_eq (md : Nat) (f : FmtStr) (v : Operand) (c0 c1 W : Nat) (h01 : c0 ≤ c1) (hv : NoEsc v) :
    ∃ r, cells r = setCells (cells f) v.cells c0 c1 ∧
      setsliceOp md f c0 c1 v W =
        if c1 < len f ∧ c1 - c0 < v.rawLen then .error .assertionError
        else if W < len r then .error .valueError else .ok r := by
  have hF : (cells f).length = len f := cells_length f
  have hV : v.cells.length = v.rawLen := cells_rawLen v
  -- whatever padded value `p` reaches `splice`, the result is `take c0 ++ p.cells ++ drop c1`
  have key : ∀ p : Operand, NoEsc p → ∃ r, cells r = (cells f).take c0 ++ p.cells ++ (cells f).drop c1 ∧
      spliceOp md f p c0 (some c1) = .ok r := fun p hp =>
    ⟨_, by rw [splice_cells _ _ _ _ h01, asFmt_cells, Option.getD_some], spliceOp_noEsc md f p c0 (some c1) hp⟩
  unfold setsliceOp setCells
  simp only [hF]
  by_cases h1 : len f < c0
  · have h2 : ¬ len f > c1 := Nat.not_lt.mpr (Nat.le_trans (Nat.le_of_lt h1) h01)
    obtain ⟨r, hc, hr⟩ := key _ (NoEsc_padLeft (c0 - len f) v hv)
    refine ⟨r, by rw [hc, padLeft_cells, if_neg h2], ?_⟩
    simp only [if_pos h1, if_neg h2, if_neg fun h : c1 < len f ∧ c1 - c0 < v.rawLen => h2 h.1, hr]
  · by_cases h2 : len f > c1
    · obtain ⟨r, hc, hr⟩ := key _ (NoEsc_padRight (c1 - c0 - v.rawLen) v hv)
      refine ⟨r, by rw [hc, padRight_cells, if_pos h2, Nat.sub_eq_zero_of_le (Nat.le_of_not_lt h1),
        List.replicate_zero, List.nil_append, hV], ?_⟩
      have hl : (padRight (c1 - c0 - v.rawLen) v).rawLen = v.rawLen + (c1 - c0 - v.rawLen) := by
        rw [← cells_rawLen, padRight_cells, List.length_append, List.length_replicate, hV]
      simp only [if_neg h1, if_pos h2, hl]
      by_cases h3 : c1 - c0 < v.rawLen
      · rw [if_neg (by omega), if_pos ⟨h2, h3⟩]
      · rw [if_pos ⟨Nat.add_sub_cancel' (Nat.le_of_not_lt h3), h01⟩, if_neg fun h => h3 h.2]; simp only [hr]
    · obtain ⟨r, hc, hr⟩ := key v hv
      refine ⟨r, by rw [hc, if_neg h2, Nat.sub_eq_zero_of_le (Nat.le_of_not_lt h1), List.replicate_zero,
        List.nil_append], ?_⟩
      simp only [if_neg h1, if_neg h2, if_neg fun h : c1 < len f ∧ c1 - c0 < v.rawLen => h2 h.1, hr]

theorem setsliceOp_ok (md : Nat) (f : FmtStr) (v : Operand) (c0 c1 W : Nat) (h01 : c0 ≤ c1) (hcW : c0 + v.rawLen ≤ W)
    (hf : len f ≤ W) (hv : v.rawLen ≤ c1 - c0) (hne : NoEsc v) :
    ∃ r, setsliceOp md f c0 c1 v W = .ok r ∧ cells r = setCells (cells f) v.cells c0 c1 := by
  obtain ⟨r, hc, he⟩ := setsliceOp_eq md f v c0 c1 W h01 hne
  have hlen := length_setCells (cells f) v.cells c0 c1 h01
  rw [← hc, cells_length, cells_length, cells_rawLen] at hlen
  have hassert : ¬ (c1 < len f ∧ c1 - c0 < v.rawLen) := fun h => Nat.not_lt_of_le hv h.2
  have hW : len r ≤ W := by
    rw [hlen hassert]
    split <;> assumption
  exact ⟨r, by rw [he, if_neg hassert, if_neg (Nat.not_lt_of_le hW)], hc⟩

theorem setsliceOp_reject (md : Nat) (f : FmtStr) (v : Operand) (c0 c1 W : Nat) (h01 : c0 ≤ c1)
    (hv : v.rawLen > c1 - c0) (hne : NoEsc v) (h : len f > c1 ∨ c0 + v.rawLen > W) :
    ∃ e, setsliceOp md f c0 c1 v W = .error e := by
  obtain ⟨r, hc, he⟩ := setsliceOp_eq md f v c0 c1 W h01 hne
  have hlen := length_setCells (cells f) v.cells c0 c1 h01
  rw [← hc, cells_length, cells_length, cells_rawLen] at hlen
  rw [he]
  by_cases h' : c1 < len f
  · exact ⟨_, if_pos ⟨h', hv⟩⟩
  · -- the row ends at or before `c1`: no assert, and the result, `c0 + v.rawLen` long, is too long
    have hassert : ¬ (c1 < len f ∧ c1 - c0 < v.rawLen) := fun h => h' h.1
    have hW : W < len r := by
      rw [hlen hassert, if_neg h']
      exact h.resolve_left h'
    exact ⟨_, by rw [if_neg hassert, if_pos hW]⟩

theorem setsliceOp_len_le {md : Nat} {f : FmtStr} {v : Operand} {c0 c1 W : Nat} {r : FmtStr}
    (h : setsliceOp md f c0 c1 v W = .ok r) : len r ≤ W := by
  unfold setsliceOp at h
  simp only [] at h
  split at h
  · -- the padded value failed the assert
    cases h
  · split at h
    · -- `splice` raised
      cases h
    · split at h
      · -- `len(result) > length`: ValueError
        cases h
      · -- `result` is returned: it passed that test
        cases h
        omega

theorem setsliceWithLength_eq_op (md : Nat) (f v : FmtStr) (c0 c1 W : Nat) :
    setsliceWithLength f c0 c1 v W = setsliceOp md f c0 c1 (.fmt v) W := by
  have spliceOp_fmt : ∀ x : FmtStr, spliceOp md f (.fmt x) c0 (some c1) = .ok (splice f x c0 (some c1)) :=
    fun x => spliceOp_noEsc md f (.fmt x) c0 (some c1) trivial
  unfold setsliceWithLength setsliceOp
  simp only []
  rw [show (if len f < c0 then padLeft (c0 - len f) (.fmt v) else .fmt v)
      = .fmt (if len f < c0 then raddStr v (spaces (c0 - len f)) else v) by split <;> rfl]
  generalize (if len f < c0 then raddStr v (spaces (c0 - len f)) else v) = v1
  by_cases h2 : len f > c1
  · by_cases h3 : len (addStr v1 (spaces (c1 - c0 - len v1))) = c1 - c0 ∧ c0 ≤ c1
    · simp only [if_pos h2, padRight, Operand.rawLen, h3, and_self, if_true, spliceOp_fmt]
    · simp only [if_pos h2, padRight, Operand.rawLen, h3, if_false]
  · simp only [if_neg h2, spliceOp_fmt]

theorem setslice_eq (f v : FmtStr) (c0 c1 W : Nat) (h01 : c0 ≤ c1) :
    ∃ r, cells r = setCells (cells f) (cells v) c0 c1 ∧
      setsliceWithLength f c0 c1 v W =
        if c1 < len f ∧ c1 - c0 < len v then .error .assertionError
        else if W < len r then .error .valueError else .ok r := by
  rw [setsliceWithLength_eq_op 0]
  exact setsliceOp_eq 0 f (.fmt v) c0 c1 W h01 trivial

theorem setslice_ok (f v : FmtStr) (c0 c1 W : Nat) (h01 : c0 ≤ c1) (hcW : c0 + len v ≤ W) (hf : len f ≤ W)
    (hv : len v ≤ c1 - c0) :
    ∃ r, setsliceWithLength f c0 c1 v W = .ok r ∧ cells r = setCells (cells f) (cells v) c0 c1 := by
  rw [setsliceWithLength_eq_op 0]
  exact setsliceOp_ok 0 f (.fmt v) c0 c1 W h01 hcW hf hv trivial

theorem setslice_len_le (f v : FmtStr) (c0 c1 W : Nat) (r : FmtStr)
    (h : setsliceWithLength f c0 c1 v W = .ok r) : len r ≤ W := by
  rw [setsliceWithLength_eq_op 0] at h
  exact setsliceOp_len_le h

/-- A value longer than its region is rejected when the row continues past the region (AssertionError) or the
    result would be longer than `W` (ValueError). The remaining case - the row ends at or before `c1` and the
    result fits - is accepted (finding D19). -/
theorem setslice_reject (f v : FmtStr) (c0 c1 W : Nat) (h01 : c0 ≤ c1) (hv : len v > c1 - c0)
    (h : len f > c1 ∨ c0 + len v > W) :
    ∃ e, setsliceWithLength f c0 c1 v W = .error e := by
  rw [setsliceWithLength_eq_op 0]
  exact setsliceOp_reject 0 f (.fmt v) c0 c1 W h01 hv trivial h

theorem setRows_inv {md c0 c1 W : Nat} {rows : List FmtStr} {vals : List Operand} {new : List FmtStr}
    (h : setRows md c0 c1 W rows vals = .ok new) :
    new.length = min rows.length vals.length ∧ ∀ r ∈ new, len r ≤ W := by
  induction rows generalizing vals new with
  | nil => unfold setRows at h; cases h; simp
  | cons f rows ih =>
    cases vals with
    | nil => unfold setRows at h; cases h; simp
    | cons v vals =>
      unfold setRows at h
      cases h1 : setsliceOp md f c0 c1 v W with
      | error e => rw [h1] at h; simp at h
      | ok r =>
        rw [h1] at h
        cases h2 : setRows md c0 c1 W rows vals with
        | error e => rw [h2] at h; simp at h
        | ok rest =>
          rw [h2] at h
          cases h
          obtain ⟨hl, hw⟩ := ih h2
          refine ⟨by simp only [List.length_cons, hl]; omega, fun x hx => ?_⟩
          rcases List.mem_cons.mp hx with rfl | hx
          · exact setsliceOp_len_le h1
          · exact hw x hx

theorem setRows_ok (md c0 c1 W : Nat) (h01 : c0 ≤ c1) (rows : List FmtStr) (vals : List Operand)
    (hr : ∀ f ∈ rows, len f ≤ W) (hv : ∀ v ∈ vals, c0 + v.rawLen ≤ W ∧ v.rawLen ≤ c1 - c0 ∧ NoEsc v)
    (hl : rows.length = vals.length) :
    ∃ new, setRows md c0 c1 W rows vals = .ok new ∧
      new.map cells = List.zipWith (fun F V => setCells F V c0 c1) (rows.map cells) (vals.map Operand.cells) := by
  induction rows generalizing vals with
  | nil => exact ⟨[], by unfold setRows; rfl, rfl⟩
  | cons f rows ih =>
    cases vals with
    | nil => simp at hl
    | cons v vals =>
      obtain ⟨hvW, hfit, hne⟩ := hv v (by simp)
      obtain ⟨r, hr1, hr2⟩ := setsliceOp_ok md f v c0 c1 W h01 hvW (hr f (by simp)) hfit hne
      obtain ⟨rest, h1, h2⟩ := ih vals (fun f hf => hr f (by simp [hf])) (fun v h => hv v (by simp [h]))
        (by simpa using hl)
      exact ⟨r :: rest, by unfold setRows; rw [hr1, h1],
        by simp only [List.map_cons, List.zipWith_cons_cons, hr2, h2]⟩

theorem setRows_error (md c0 c1 W : Nat) (rows : List FmtStr) (vals : List Operand) (i : Nat) (f : FmtStr)
    (v : Operand) (e : PyErr)
    (hf : rows[i]? = some f) (hv : vals[i]? = some v) (he : setsliceOp md f c0 c1 v W = .error e) :
    ∃ e', setRows md c0 c1 W rows vals = .error e' := by
  induction rows generalizing vals i with
  | nil => simp at hf
  | cons f0 rows ih =>
    cases vals with
    | nil => simp at hv
    | cons v0 vals =>
      unfold setRows
      cases i with
      | zero =>
        simp at hf hv; subst hf hv
        rw [he]; exact ⟨_, rfl⟩
      | succ i =>
        simp at hf hv
        cases h1 : setsliceOp md f0 c0 c1 v0 W with
        | error e1 => exact ⟨_, rfl⟩
        | ok r =>
          obtain ⟨e', h2⟩ := ih vals i hf hv
          simp only [h2]; exact ⟨_, rfl⟩

/-- What cell (r, c) of the array shows: the stored cell, blank beyond the end of the row and below the last row. -/
def grid (a : FSArr) (r c : Nat) : Cell :=
  match a.rows[r]? with
  | some f => rowCell f c
  | none => blankCell

/-- What a matrix of cells shows: the padding-blind reading of `rows.map cells`. -/
def shown (M : List (List Cell)) (r c : Nat) : Cell := padCell (M[r]?.getD []) c

theorem grid_eq_shown (a : FSArr) (r c : Nat) : grid a r c = shown (a.rows.map cells) r c := by
  simp only [grid, shown, List.getElem?_map]
  cases a.rows[r]? <;> rfl

theorem shown_append_empty (M : List (List Cell)) (k r c : Nat) :
    shown (M ++ List.replicate k []) r c = shown M r c := by
  rw [shown, getD_append_replicate]; rfl

/-- No stored row is longer than the array is wide (what `setslice_with_length`'s `length` argument enforces). -/
def WF (a : FSArr) : Prop := ∀ f ∈ a.rows, len f ≤ a.numColumns

/-- The array after `rows.extend(blank rows)` up to height `h`. -/
def FSArr.extended (a : FSArr) (h : Nat) : FSArr :=
  { a with rows := a.rows ++ List.replicate (h - a.rows.length) (blankRow a.blankAtts) }

theorem cells_blankRow (atts : Atts) : cells (blankRow atts) = [] := rfl

theorem grid_extended (a : FSArr) (h r c : Nat) : grid (a.extended h) r c = grid a r c := by
  rw [grid_eq_shown, FSArr.extended, List.map_append, List.map_replicate, cells_blankRow, shown_append_empty,
    grid_eq_shown]

theorem WF_extended (a : FSArr) (h : Nat) (hw : WF a) : WF (a.extended h) := by
  intro f hf
  simp only [FSArr.extended, List.mem_append, List.mem_replicate] at hf
  rcases hf with hf | ⟨_, rfl⟩
  · exact hw f hf
  · simp [blankRow, FSArr.extended]

theorem extended_length (a : FSArr) (h : Nat) : (a.extended h).rows.length = max a.rows.length h := by
  simp only [FSArr.extended, List.length_append, List.length_replicate]; omega

theorem le_extended_length (a : FSArr) (h : Nat) : h ≤ (a.extended h).rows.length :=
  extended_length a h ▸ Nat.le_max_right ..

theorem listSlice_get (rows : List FmtStr) (r0 r1 i : Nat) (h : r0 + i < r1) :
    (listSlice rows (r0, r1))[i]? = rows[r0 + i]? := by
  simp only [listSlice, List.getElem?_drop, List.getElem?_take, if_pos h]

theorem listSlice_length (rows : List FmtStr) (r0 r1 : Nat) (hl : r1 ≤ rows.length) :
    (listSlice rows (r0, r1)).length = r1 - r0 := by
  simp only [listSlice, List.length_drop, List.length_take_of_le hl]

/-- `len(a.rows[r])`, the stored length of row `r`; 0 below the last row. -/
def rowLen (a : FSArr) (r : Nat) : Nat :=
  match a.rows[r]? with
  | some f => len f
  | none => 0

theorem rowLen_extended (a : FSArr) (h r : Nat) : rowLen (a.extended h) r = rowLen a r := by
  have hl : ∀ b : FSArr, rowLen b r = ((b.rows.map len)[r]?).getD 0 := fun b => by
    simp only [rowLen, List.getElem?_map]
    cases b.rows[r]? <;> rfl
  rw [hl, hl, FSArr.extended, List.map_append, List.map_replicate]
  exact getD_append_replicate _ _ _ _

/-- `a[r, c] = value` depends on its subscripts only through `normalize_slice`. -/
theorem setRegion_of_norm (md : Nat) (a : FSArr) (r c : Index) (value : Block) (rs cs : Nat × Nat)
    (hr : normalizeSlice maxsize r = .ok rs) (hc : normalizeSlice a.numColumns c = .ok cs) :
    a.setRegion md r c value =
      if slicesize cs = 0 ∨ slicesize rs = 0 then (a.extended rs.2, .ok ())
      else if slicesize cs > 1 ∧ value.isStr then (a.extended rs.2, .error .valueError)
      else if slicesize rs ≠ (value.items.length : Int) then
        (a.extended rs.2, .error (mismatchError md (a.extended rs.2).rows a.numColumns rs cs value))
      else match setRows md cs.1 cs.2 a.numColumns (listSlice (a.extended rs.2).rows rs) value.items with
        | .error e => (a.extended rs.2, .error e)
        | .ok new => ({ a.extended rs.2 with
            rows := (a.extended rs.2).rows.take rs.1 ++ new ++ (a.extended rs.2).rows.drop rs.2 }, .ok ()) := by
  unfold FSArr.setRegion
  simp only [hr, hc]
  rfl

/-- The outcome `p` of an assignment to the rows `rs` of `a`: it succeeded, and the rows `rs.1 ≤ r < rs.2` of the
    extended array were replaced, one for one, by `new`. -/
structure RowsReplaced (a : FSArr) (rs : Nat × Nat) (new : List FmtStr) (p : FSArr × Except PyErr Unit) : Prop where
  ok : p.2 = .ok ()
  le : rs.1 ≤ rs.2
  length : new.length = rs.2 - rs.1
  width : ∀ f ∈ new, len f ≤ a.numColumns
  state : p.1 = { a.extended rs.2 with
    rows := (a.extended rs.2).rows.take rs.1 ++ new ++ (a.extended rs.2).rows.drop rs.2 }

/-- Every outcome of `a[r, c] = value` by what it does to the state: untouched (row subscript rejected); only extended
    with blank rows (the other error paths, the empty-region return); or region rows replaced one for one. -/
theorem setRegion_cases (md : Nat) (a : FSArr) (r c : Index) (value : Block) :
    ((∃ e, normalizeSlice maxsize r = .error e) ∧ (a.setRegion md r c value).1 = a) ∨
    (∃ rs, normalizeSlice maxsize r = .ok rs ∧ (a.setRegion md r c value).1 = a.extended rs.2) ∨
    ∃ rs new, normalizeSlice maxsize r = .ok rs ∧ RowsReplaced a rs new (a.setRegion md r c value) := by
  cases h1 : normalizeSlice maxsize r with
  | error e => exact .inl ⟨⟨e, rfl⟩, by simp only [FSArr.setRegion, h1]⟩
  | ok rs =>
    right
    cases h2 : normalizeSlice a.numColumns c with
    | error e => exact .inl ⟨rs, rfl, by simp only [FSArr.setRegion, h1, h2]; rfl⟩
    | ok cs =>
      rw [setRegion_of_norm md a r c value rs cs h1 h2]
      by_cases g1 : slicesize cs = 0 ∨ slicesize rs = 0
      · rw [if_pos g1]; exact .inl ⟨rs, rfl, rfl⟩
      · rw [if_neg g1]
        by_cases g2 : slicesize cs > 1 ∧ value.isStr
        · rw [if_pos g2]; exact .inl ⟨rs, rfl, rfl⟩
        · rw [if_neg g2]
          by_cases g3 : slicesize rs ≠ (value.items.length : Int)
          · rw [if_pos g3]; exact .inl ⟨rs, rfl, rfl⟩
          · rw [if_neg g3]
            cases h3 : setRows md cs.1 cs.2 a.numColumns (listSlice (a.extended rs.2).rows rs) value.items with
            | error e => exact .inl ⟨rs, rfl, rfl⟩
            | ok new =>
              -- as many values as region rows, and the region lies inside the extended array
              obtain ⟨hn, hw⟩ := setRows_inv h3
              simp only [slicesize, Decidable.not_not] at g3
              rw [listSlice_length _ _ _ (le_extended_length a rs.2)] at hn
              exact .inr ⟨rs, new, rfl,
                { ok := rfl, le := by omega, length := by omega, width := hw, state := rfl }⟩

/-- Whatever the outcome: the rows are extended before anything is validated, and a successful call replaces region
    rows one for one. -/
theorem setRegion_height (md : Nat) (a : FSArr) (r c : Index) (value : Block) (rs : Nat × Nat)
    (hr : normalizeSlice maxsize r = .ok rs) :
    (a.setRegion md r c value).1.rows.length = max a.rows.length rs.2 := by
  have hE := extended_length a rs.2
  rcases setRegion_cases md a r c value with ⟨⟨e, he⟩, _⟩ | ⟨rs', hr', h⟩ | ⟨rs', new, hr', h⟩
  · rw [hr] at he; cases he
  · rw [hr] at hr'; cases hr'; rw [h]; exact hE
  · rw [hr] at hr'; cases hr'; rw [h.state]
    exact (length_splice _ _ _ _ h.le (le_extended_length a rs.2) h.length).trans hE

/-- What a row of `fsarray(strings, width, *args)` shows: a FmtStr as it is, a plain str with the formatting the
    extra arguments denote. -/
def itemCells (atts : Atts) : Operand → List Cell
  | .str t => t.map fun ch => (ch, atts)
  | .fmt f => cells f

theorem itemCells_length (atts : Atts) (s : Operand) : (itemCells atts s).length = s.rawLen := by
  cases s with
  | str t => simp [itemCells, Operand.rawLen]
  | fmt g => exact cells_length g

theorem fsarrayConvert_noEsc (md : Nat) (atts : Atts) (s : Operand) (h : NoEsc s) :
    ∃ sf, fsarrayConvert md atts s = .ok sf ∧ cells sf = itemCells atts s ∧ len sf = s.rawLen := by
  cases s with
  | fmt f => exact ⟨f, rfl, rfl, rfl⟩
  | str t =>
    simp only [NoEsc] at h
    refine ⟨[⟨t, atts⟩], ?_, ?_, ?_⟩
    · simp only [fsarrayConvert, fmtstrOf, fromStr_noEsc md t h, copyWithNewAtts, List.map_cons, List.map_nil,
        Atts.empty_extend]
    · simp [itemCells, Chunk.cells]
    · simp [Operand.rawLen]

theorem fsarrayRows_ok (md w : Nat) (atts : Atts) (strings : List Operand)
    (hne : ∀ s ∈ strings, NoEsc s) (hfit : ∀ s ∈ strings, s.rawLen ≤ w) :
    ∃ rows, fsarrayRows md w atts (List.replicate strings.length (blankRow atts)) strings = .ok rows ∧
      rows.map cells = strings.map (itemCells atts) := by
  induction strings with
  | nil => exact ⟨[], by simp [fsarrayRows], rfl⟩
  | cons s strings ih =>
    obtain ⟨sf, hsf, hsc, hsl⟩ := fsarrayConvert_noEsc md atts s (hne s (by simp))
    -- the converted item fills the region `0 : len` of a blank row exactly
    have hw : 0 + len sf ≤ w := by rw [Nat.zero_add, hsl]; exact hfit s (by simp)
    obtain ⟨r, hr, hc⟩ := setslice_ok (blankRow atts) sf 0 (len sf) w (Nat.zero_le _) hw (Nat.zero_le _)
      (Nat.le_refl _)
    rw [cells_blankRow, setCells_exact [] (cells sf) 0 (len sf) (Nat.le_refl _) (cells_length sf)] at hc
    obtain ⟨rest, h1, h2⟩ := ih (fun s hs => hne s (by simp [hs])) (fun s hs => hfit s (by simp [hs]))
    refine ⟨r :: rest, ?_, ?_⟩
    · simp only [List.length_cons, List.replicate_succ, fsarrayRows, hsf, hr, h1]
    · rw [List.map_cons, List.map_cons, h2, hc, ← hsc]
      simp only [List.take_nil, List.drop_nil, List.nil_append, List.append_nil]

end Curtsies.FSArray
