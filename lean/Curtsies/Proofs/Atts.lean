/-
  The attribute dict read entry by entry (`Atts.get`).  The operations of `FrozenAttributes` modelled in Model/Basic.lean
  are each characterised by what they do to one entry (`remove`, a fold of `erase`, only in C14: `C14_remove_key`), and a
  dict is determined by its entries (`Atts.ext_get`): proofs about dicts argue about one arbitrary key, not eight fields.
-/
import Curtsies.Model.FmtStr
namespace Curtsies

/-- The value of a dict entry: a colour index (`fg`, `bg`) or a bool (the six styles). -/
inductive NVal | col (c : Fin 8) | flag (b : Bool)
  deriving DecidableEq, Repr

def Atts.get (a : Atts) : Key → Option NVal
  | .bg => a.bg.map .col | .blink => a.blink.map .flag | .bold => a.bold.map .flag
  | .dark => a.dark.map .flag | .fg => a.fg.map .col | .invert => a.invert.map .flag
  | .italic => a.italic.map .flag | .underline => a.underline.map .flag

theorem Key.forall_iff {P : Key → Prop} :
    (∀ k, P k) ↔ P .bg ∧ P .blink ∧ P .bold ∧ P .dark ∧ P .fg ∧ P .invert ∧ P .italic ∧ P .underline :=
  ⟨fun h => ⟨h _, h _, h _, h _, h _, h _, h _, h _⟩,
   fun ⟨h1, h2, h3, h4, h5, h6, h7, h8⟩ k => by cases k <;> assumption⟩

theorem NVal.map_col_inj {x y : Option (Fin 8)} : x.map NVal.col = y.map NVal.col ↔ x = y :=
  Option.map_inj_right fun _ _ => NVal.col.inj
theorem NVal.map_flag_inj {x y : Option Bool} : x.map NVal.flag = y.map NVal.flag ↔ x = y :=
  Option.map_inj_right fun _ _ => NVal.flag.inj

theorem Atts.ext_get {a b : Atts} (h : ∀ k, a.get k = b.get k) : a = b := by
  cases a; cases b
  simpa only [Key.forall_iff, Atts.get, NVal.map_col_inj, NVal.map_flag_inj, Atts.mk.injEq] using h

theorem Atts.has_eq (a : Atts) (k : Key) : a.has k = (a.get k).isSome := by
  cases k <;> simp only [Atts.has, Atts.get, Option.isSome_map]

theorem Atts.get_empty (k : Key) : ({} : Atts).get k = none := by cases k <;> rfl

theorem Option.map_orElse_const {α β : Type} (f : α → β) (x y : Option α) :
    (x.orElse fun _ => y).map f = (x.map f).orElse fun _ => y.map f := by cases x <;> rfl

theorem Atts.get_extend (a b : Atts) (k : Key) : (a.extend b).get k = (b.get k).orElse fun _ => a.get k := by
  cases k <;> exact Option.map_orElse_const ..

theorem Atts.get_erase (a : Atts) (j k : Key) : (a.erase j).get k = if k = j then none else a.get k := by
  cases j <;> cases k <;> rfl

theorem Atts.get_inter (a b : Atts) (k : Key) :
    (a.inter b).get k = if a.get k = b.get k then a.get k else none := by
  -- field by field alike: the test on the entries is the test on the fields, and either way both sides agree
  cases k <;> simp only [Atts.inter, Atts.get, NVal.map_col_inj, NVal.map_flag_inj] <;> split <;> rfl

theorem Atts.get_inter_eq_some {a b : Atts} {k : Key} {v : NVal} :
    (a.inter b).get k = some v ↔ a.get k = some v ∧ b.get k = some v := by
  rw [Atts.get_inter]
  split
  next h => rw [← h]; exact ⟨fun h => ⟨h, h⟩, fun h => h.1⟩
  next h => exact ⟨fun h => (nomatch h), fun ⟨h1, h2⟩ => absurd (h1.trans h2.symm) h⟩

theorem Atts.le_iff {a b : Atts} : a.le b ↔ ∀ k v, a.get k = some v → b.get k = some v := by
  have e : a.le b ↔ ∀ k, (a.get k).isSome → a.get k = b.get k := by
    simp only [Key.forall_iff, Atts.get, Option.isSome_map, NVal.map_col_inj, NVal.map_flag_inj]
    exact Iff.rfl
  rw [e]
  exact ⟨fun h k v hv => by rw [← h k (by rw [hv]; rfl), hv],
    fun h k hk => by obtain ⟨v, hv⟩ := Option.isSome_iff_exists.mp hk; rw [hv, h k v hv]⟩

theorem Atts.le_refl (a : Atts) : a.le a := Atts.le_iff.mpr fun _ _ h => h

theorem Atts.extend_self (a : Atts) : a.extend a = a :=
  Atts.ext_get fun k => by rw [Atts.get_extend]; cases a.get k <;> rfl
theorem Atts.empty_extend (a : Atts) : ({} : Atts).extend a = a :=
  Atts.ext_get fun k => by rw [Atts.get_extend, Atts.get_empty]; cases a.get k <;> rfl

theorem get_foldl_inter {α : Type} (proj : α → Atts) (l : List α) (acc : Atts) (k : Key) (v : NVal) :
    (l.foldl (fun a x => a.inter (proj x)) acc).get k = some v ↔
      acc.get k = some v ∧ ∀ x ∈ l, (proj x).get k = some v := by
  induction l generalizing acc with
  | nil => simp
  | cons x l ih => rw [List.foldl_cons, ih, Atts.get_inter_eq_some]; simp [and_assoc]

theorem cells_map_atts (g : Atts → Atts) (f : FmtStr) :
    cells (f.map fun c => (⟨c.s, g c.atts⟩ : Chunk)) = (cells f).map fun p => (p.1, g p.2) := by
  induction f with
  | nil => rfl
  | cons c f ih =>
    simp only [List.map_cons, cells_cons, List.map_append] at ih ⊢
    rw [ih]; simp [Chunk.cells]

theorem sharedAtts_get (f : FmtStr) (hch : cells f ≠ []) :
    ∃ sh, sharedAtts f = .ok sh ∧ ∀ k v, sh.get k = some v ↔ ∀ p ∈ cells f, p.2.get k = some v := by
  cases f with
  | nil => exact absurd rfl hch
  | cons hd tl =>
    refine ⟨_, rfl, fun k v => ?_⟩
    rw [forall_cells_iff _ (fun a => a.get k = some v), get_foldl_inter Chunk.atts]
    -- the reference run is itself one of the non-empty runs
    cases hne : (hd :: tl).filter (fun c => !c.s.isEmpty) with
    | nil => exact absurd ((cells_eq_nil_iff _).mpr hne) hch
    | cons c0 rest => exact ⟨fun h => h.2, fun h => ⟨h c0 (List.mem_cons_self ..), h⟩⟩

end Curtsies
