/- Under the guard the code itself checks (no negative widths) `wcswidth` is the plain sum of the per-character
   widths, on texts (`colWidth`) and on the per-character view (`cellsWidth`). -/
import Curtsies.Model.Width
namespace Curtsies

/-- Specification side: number of terminal columns a text occupies. -/
def colWidth (u : UEnv) (s : Text) : Int := (s.map u.wcwidth).sum

/-- The hypothesis of C10/C11: every character is zero-width (0), narrow (1) or double-width (2) - exactly what the
    library's own guard `wcswidth(s) != -1` establishes for the real `wcwidth`, whose only other value is -1. -/
def UEnv.sane (u : UEnv) (s : Text) : Prop := ∀ c ∈ s, u.wcwidth c = 0 ∨ u.wcwidth c = 1 ∨ u.wcwidth c = 2

instance (u : UEnv) (s : Text) : Decidable (u.sane s) := by unfold UEnv.sane; infer_instance

@[simp] theorem colWidth_nil (u : UEnv) : colWidth u [] = 0 := rfl
@[simp] theorem colWidth_cons (u : UEnv) (c : Char) (s : Text) :
    colWidth u (c :: s) = u.wcwidth c + colWidth u s := by simp [colWidth]
@[simp] theorem colWidth_append (u : UEnv) (s t : Text) :
    colWidth u (s ++ t) = colWidth u s + colWidth u t := by simp [colWidth]

theorem UEnv.sane_cons {u : UEnv} {c : Char} {s : Text} (h : u.sane (c :: s)) :
    (u.wcwidth c = 0 ∨ u.wcwidth c = 1 ∨ u.wcwidth c = 2) ∧ u.sane s :=
  List.forall_mem_cons.mp h

/-- the form for `omega`: bounds instead of three cases -/
theorem UEnv.sane_cons_bounds {u : UEnv} {c : Char} {s : Text} (h : u.sane (c :: s)) :
    (0 ≤ u.wcwidth c ∧ u.wcwidth c ≤ 2) ∧ u.sane s :=
  ⟨by have := (UEnv.sane_cons h).1; omega, (UEnv.sane_cons h).2⟩

theorem UEnv.sane_append {u : UEnv} {s t : Text} : u.sane (s ++ t) ↔ u.sane s ∧ u.sane t :=
  List.forall_mem_append

theorem UEnv.sane_take {u : UEnv} {s : Text} (h : u.sane s) (n : Nat) : u.sane (s.take n) :=
  fun c hc => h c (List.mem_of_mem_take hc)
theorem UEnv.sane_drop {u : UEnv} {s : Text} (h : u.sane s) (n : Nat) : u.sane (s.drop n) :=
  fun c hc => h c (List.mem_of_mem_drop hc)

theorem colWidth_nonneg {u : UEnv} {s : Text} (h : u.sane s) : 0 ≤ colWidth u s := by
  induction s with
  | nil => simp
  | cons c s ih =>
    have ⟨hw, hrest⟩ := UEnv.sane_cons_bounds h
    have := ih hrest
    rw [colWidth_cons]
    omega

theorem wcswidthLoop_eq {u : UEnv} {s : Text} (h : u.sane s) (acc : Int) :
    wcswidthLoop u acc s = acc + colWidth u s := by
  fun_induction wcswidthLoop u acc s with
  | case1 width => simp
  | case2 width c rest hc => have := (UEnv.sane_cons h).1; omega
  | case3 width c rest hc ih => rw [ih (UEnv.sane_cons h).2, colWidth_cons]; omega

theorem wcswidthLoop_neg (u : UEnv) (s : Text) (acc : Int) (h : ∃ c ∈ s, u.wcwidth c < 0) :
    wcswidthLoop u acc s = -1 := by
  fun_induction wcswidthLoop u acc s with
  | case1 width => simp at h
  | case2 width c rest hc => rfl
  | case3 width c rest hc ih =>
    obtain ⟨d, hd, hd2⟩ := h
    rcases List.mem_cons.mp hd with rfl | hd
    · exact absurd hd2 hc
    · exact ih ⟨d, hd, hd2⟩

theorem wcswidth_eq {u : UEnv} {s : Text} (h : u.sane s) : wcswidth u s = colWidth u s := by
  simp [wcswidth, wcswidthLoop_eq h]

theorem wcswidth_single {u : UEnv} {c : Char} (h : 0 ≤ u.wcwidth c) : wcswidth u [c] = u.wcwidth c := by
  simp only [wcswidth, wcswidthLoop]
  rw [if_neg (Int.not_lt.mpr h), Int.zero_add]

theorem wcswidth_ne_neg_one {u : UEnv} {s : Text} (h : u.sane s) : wcswidth u s ≠ -1 := by
  have := colWidth_nonneg h
  rw [wcswidth_eq h]
  omega

theorem chunkWidth_eq {u : UEnv} {c : Chunk} (h : u.sane c.s) : chunkWidth u c = .ok (colWidth u c.s) := by
  have := colWidth_nonneg h
  simp only [chunkWidth, wcswidth_eq h]
  rw [if_neg (by omega)]

theorem fmtWidth_eq {u : UEnv} {f : FmtStr} (h : u.sane (text f)) :
    fmtWidth u f = .ok (colWidth u (text f)) := by
  induction f with
  | nil => rfl
  | cons c f ih =>
    rw [text_cons] at h
    have ⟨h1, h2⟩ := UEnv.sane_append.mp h
    simp [fmtWidth, chunkWidth_eq h1, ih h2, text_cons, bind, Except.bind, pure, Except.pure]

def cellsWidth (u : UEnv) (l : List Cell) : Int := colWidth u (l.map Prod.fst)

@[simp] theorem cellsWidth_nil (u : UEnv) : cellsWidth u [] = 0 := rfl
@[simp] theorem cellsWidth_cons (u : UEnv) (x : Cell) (l : List Cell) :
    cellsWidth u (x :: l) = u.wcwidth x.1 + cellsWidth u l := by simp [cellsWidth]
@[simp] theorem cellsWidth_append (u : UEnv) (l m : List Cell) :
    cellsWidth u (l ++ m) = cellsWidth u l + cellsWidth u m := by simp [cellsWidth]

@[simp] theorem cellsWidth_chunk (u : UEnv) (c : Chunk) : cellsWidth u c.cells = colWidth u c.s := by
  rw [cellsWidth, Chunk.cells_fst]

theorem cellsWidth_cells (u : UEnv) (f : FmtStr) : cellsWidth u (cells f) = colWidth u (text f) := by
  rw [cellsWidth, text_eq_cells]

theorem sane_cells_fst {u : UEnv} {f : FmtStr} : u.sane ((cells f).map Prod.fst) ↔ u.sane (text f) := by
  rw [text_eq_cells]

theorem cellsWidth_replicate (u : UEnv) (hsp : u.wcwidth ' ' = 1) (n : Nat) (a : Atts) :
    cellsWidth u (List.replicate n (' ', a)) = n := by
  induction n with
  | zero => rfl
  | succ k ih => rw [List.replicate_succ, cellsWidth_cons, ih, hsp]; omega

/-- The environment of the non-vacuity examples: U+FF25 is double-width, U+0301 zero-width, the rest narrow. -/
def exEnv : UEnv :=
  { wcwidth := fun c => if c = 'Ｅ' then 2 else if c = '́' then 0 else 1
    isSpace := fun c => c = ' ' || c = '\t' || c = '\n' }

def exF : FmtStr := [⟨['a', 'Ｅ'], {fg := some 1}⟩, ⟨[], {}⟩, ⟨['́', 'Ｅ', 'b'], {bold := some true}⟩]

theorem exF_sane_and_space : exEnv.sane (text exF) ∧ exEnv.wcwidth ' ' = 1 := by decide

end Curtsies
