/-
  The parser model on strings of the grammar (text | CSI p1;...;pn I* F)* of Proofs/Sgr.lean, for C17_numeric_partial
  and C05. Leading text free of ESC/0x9b only extends `front` (`peel_append_noIntro`). On a printed control sequence m1
  matches at position 0 with exactly that sequence (m2 ties on `ESC[`, m1 wins), numbers = `[int(p1),..]`, or `''`
  when there are no parameters (`peel_csiSeq`, `postNumbers_join`). `remove_ansi` keeps such text and deletes such a
  sequence (`removeAnsiAux_append_noIntro`, `removeAnsiAux_csi`).
-/
import Curtsies.Proofs.EscParse
import Curtsies.Proofs.Sgr
namespace Curtsies

-- A string of the grammar is `items.flatMap print`: what one item prints (an `ESC[`, say) is in the whole.
theorem infix_flatMap_of_mem {α : Type} {f : α → Text} {l : List α} {x : α} (h : x ∈ l) : f x <:+: l.flatMap f :=
  List.infix_of_mem_flatten (List.mem_map_of_mem h)

theorem matchCsiAt_noIntro {x : Char} (h : x ≠ ESC ∧ x ≠ CSI8) (r : Text) : matchCsiAt (x :: r) = none := by
  simp [matchCsiAt, h.1, h.2]

theorem matchEsc2At_noIntro {x : Char} (h : x ≠ ESC) (r : Text) : matchEsc2At (x :: r) = none := by
  cases r <;> simp [matchEsc2At, h]

theorem matchAt_noIntro {x : Char} (h : x ≠ ESC ∧ x ≠ CSI8) (r : Text) : matchAt (x :: r) = none := by
  rw [matchAt, matchCsiAt_noIntro h, matchEsc2At_noIntro h.1]
  rfl

theorem findCsi_append_noIntro {t : Text} (ht : NoIntro t) (rest : Text) :
    findCsi (t ++ rest) = (findCsi rest).map fun x => (t ++ x.1, x.2.1, x.2.2) := by
  induction t with
  | nil => rw [List.nil_append]; cases findCsi rest <;> rfl
  | cons c t ih =>
    rw [List.cons_append, findCsi, matchCsiAt_noIntro (ht c (List.mem_cons_self ..)),
      ih fun x hx => ht x (List.mem_cons_of_mem _ hx)]
    cases findCsi rest <;> rfl

theorem findEsc2_append_noIntro {t : Text} (ht : NoIntro t) (rest : Text) :
    findEsc2 (t ++ rest) = (findEsc2 rest).map fun x => (t ++ x.1, x.2.1, x.2.2) := by
  induction t with
  | nil => rw [List.nil_append]; cases findEsc2 rest <;> rfl
  | cons c t ih =>
    rw [List.cons_append, findEsc2, matchEsc2At_noIntro (ht c (List.mem_cons_self ..)).1,
      ih fun x hx => ht x (List.mem_cons_of_mem _ hx)]
    cases findEsc2 rest <;> rfl

theorem peelMatch_append_noIntro {t : Text} (ht : NoIntro t) (rest : Text) :
    peelMatch (t ++ rest) = (t ++ (peelMatch rest).1, (peelMatch rest).2.1, (peelMatch rest).2.2) := by
  induction t with
  | nil => rfl
  | cons c t ih =>
    rw [List.cons_append, peelMatch_cons, matchAt_noIntro (ht c (List.mem_cons_self ..)),
      ih fun x hx => ht x (List.mem_cons_of_mem _ hx)]
    rfl

theorem peel_append_noIntro (md : Nat) {t : Text} (ht : NoIntro t) (rest : Text) :
    peel md (t ++ rest) =
      match peel md rest with
      | .error e => .error e
      | .ok r => .ok (t ++ r.1, r.2.1, r.2.2) := by
  unfold peel
  rw [peelMatch_append_noIntro ht]
  cases postToken md (peelMatch rest).2.1 <;> rfl

/-- Not an equation between item lists: `t` merges into the `str` item that `rest` begins with, if any, so the two
    results are compared through `cells`. -/
theorem parseLoop_append_noIntro (md : Nat) {t : Text} (ht : NoIntro t) (rest : Text) :
    (∀ e, parseLoop md rest = .error e → parseLoop md (t ++ rest) = .error e) ∧
    (∀ its, parseLoop md rest = .ok its → ∃ its', parseLoop md (t ++ rest) = .ok its' ∧
      ∀ cur, cells (fromStrLoop cur its') = t.map (fun ch => (ch, cur)) ++ cells (fromStrLoop cur its)) := by
  rw [parseLoop_eq md rest, parseLoop_eq md (t ++ rest), peel_append_noIntro md ht]
  cases peel md rest with
  | error e => exact ⟨fun e' h => h, fun its h => (by cases h)⟩
  | ok r =>
    simp only []
    cases tokenItems r.2.1 with
    | error e => exact ⟨fun e' h => h, fun its h => (by cases h)⟩
    | ok toks =>
      cases parseLoop md r.2.2 with
      | error e => exact ⟨fun e' h => h, fun its h => (by cases h)⟩
      | ok more =>
        refine ⟨fun e h => (by cases h), fun its h => ⟨_, rfl, fun cur => ?_⟩⟩
        cases h
        rw [List.append_assoc, List.append_assoc, cells_front, cells_front]
        simp

theorem numsLen_digits {p : Text} (hp : DigStr p) (b : Bool) (X : Text) :
    numsLen b (p ++ X) = p.length + numsLen true X := by
  obtain ⟨hne, hd⟩ := hp
  induction p generalizing b with
  | nil => exact absurd rfl hne
  | cons c p ih =>
    rw [List.forall_mem_cons] at hd
    rw [List.cons_append, numsLen, if_pos hd.1, List.length_cons]
    cases p with
    | nil => rw [List.nil_append, List.length_nil]
    | cons c' p => rw [ih true (List.cons_ne_nil _ _) hd.2]; omega

theorem numsLen_stop {tail : Text} (h : ∀ y ∈ tail.head?, isParam y = false) (b : Bool) : numsLen b tail = 0 := by
  cases tail with
  | nil => rfl
  | cons y ys =>
    have hy := h y rfl
    have h1 : isDigit y = false := Bool.eq_false_iff.mpr fun hd => by rw [isDigit_isParam hd] at hy; cases hy
    have h2 : y ≠ ';' := by rintro rfl; exact absurd hy (by decide)
    simp [numsLen, h1, h2]

theorem numsLen_join {ps : List Text} (hps : ∀ p ∈ ps, DigStr p) {tail : Text} (ht : ∀ y ∈ tail.head?, isParam y = false) :
    numsLen false (joinSemi ps ++ tail) = (joinSemi ps).length := by
  induction ps with
  | nil => simpa [joinSemi] using numsLen_stop ht false
  | cons p ps ih =>
    cases ps with
    | nil =>
      simp only [joinSemi]
      rw [numsLen_digits (hps p (by simp)), numsLen_stop ht]; rfl
    | cons q ps =>
      simp only [joinSemi, List.append_assoc, List.cons_append]
      rw [numsLen_digits (hps p (by simp))]
      simp only [numsLen, show isDigit ';' = false by decide, Bool.false_eq_true, if_false, Bool.true_and, beq_self_eq_true, if_true]
      rw [ih (fun x hx => hps x (by simp [hx]))]
      simp; omega

theorem splitSemi_nosemi {p : Text} (hp : ∀ x ∈ p, x ≠ ';') (cur X : Text) :
    splitSemi cur (p ++ X) = splitSemi (cur ++ p) X := by
  induction p generalizing cur with
  | nil => simp
  | cons c p ih =>
    have hc := hp c (by simp)
    simp only [List.cons_append, splitSemi, hc, if_false]
    rw [ih (fun x hx => hp x (by simp [hx]))]
    simp

theorem DigStr.nosemi {p : Text} (hp : DigStr p) : ∀ x ∈ p, x ≠ ';' := by
  intro x hx hs
  have := hp.2 x hx
  rw [hs] at this
  exact absurd this (by decide)

theorem splitSemi_join {p : Text} {ps : List Text} (hps : ∀ q ∈ p :: ps, DigStr q) (cur : Text) :
    splitSemi cur (joinSemi (p :: ps)) = (cur ++ p) :: ps := by
  induction ps generalizing p cur with
  | nil =>
    have := splitSemi_nosemi (hps p (by simp)).nosemi cur []
    simpa [joinSemi, splitSemi] using this
  | cons q ps ih =>
    simp only [joinSemi]
    rw [splitSemi_nosemi (hps p (by simp)).nosemi]
    simp only [splitSemi, if_true]
    rw [ih (fun x hx => hps x (by simp [hx]))]
    simp

/-- `int()` accepts the string: within the digit limit `md` (0 = no limit). -/
def LenOK (md : Nat) (p : Text) : Prop := md = 0 ∨ p.length ≤ md

theorem intsOf_ok {md : Nat} {ps : List Text} (h : ∀ p ∈ ps, LenOK md p) : intsOf md ps = .ok (ps.map intVal) := by
  induction ps with
  | nil => rfl
  | cons p ps ih =>
    have hp : intOf md p = .ok (intVal p) := by
      unfold intOf
      rw [if_neg]
      rcases h p (by simp) with h0 | h1 <;> omega
    simp only [intsOf, hp, ih (fun q hq => h q (by simp [hq])), List.map_cons]

theorem postNumbers_join {md : Nat} {ps : List Text} (hps : ∀ p ∈ ps, DigStr p) (hl : ∀ p ∈ ps, LenOK md p) :
    postNumbers md (joinSemi ps) = .ok (if ps = [] then .raw [] else .ints (ps.map intVal)) := by
  cases ps with
  | nil => simp [postNumbers, joinSemi, splitSemi]
  | cons p ps =>
    have hall : ((p :: ps).all fun q => !q.isEmpty) = true := by
      rw [List.all_eq_true]
      intro q hq
      have := (hps q hq).1
      cases q <;> simp at this ⊢
    simp only [postNumbers, splitSemi_join hps, List.nil_append, hall, if_true, intsOf_ok hl]
    rw [if_neg (by simp)]

theorem takeWhile_stop {p : Char → Bool} {a b : Text} (ha : ∀ x ∈ a, p x = true)
    (hb : ∀ y ∈ b.head?, p y = false) : (a ++ b).takeWhile p = a ∧ (a ++ b).dropWhile p = b := by
  rw [List.takeWhile_append_of_pos ha, List.dropWhile_append_of_pos ha]
  cases b with
  | nil => simp
  | cons y ys => simp [hb y rfl]

theorem head_notParam {is : Text} (hi : ∀ x ∈ is, isIntermed x = true) {c : Char} (hc : isFinal c = true)
    (rest : Text) : ∀ y ∈ (is ++ c :: rest).head?, isParam y = false := by
  intro y hy
  cases is with
  | nil => cases hy; exact inRange_disj hc (by decide)
  | cons i is => cases hy; exact inRange_disj (hi _ (List.mem_cons_self ..)) (by decide)

theorem peelMatch_head {s rest : Text} {t : Token} (h : matchCsiAt s = some (t, rest)) :
    peelMatch s = ([], some t, rest) := by
  cases s with
  | nil => cases h
  | cons c r => rw [peelMatch_cons, matchAt, h]; rfl

/-- The groupdict m1 yields for `CSI p1;...;pn I* F` (numbers still the matched str). -/
def rawToken (eight : Bool) (ps : List Text) (is : Text) (c : Char) : Token :=
  ⟨csiIntro eight, some (.raw (joinSemi ps)), is, c, csiSeq eight ps is c⟩

theorem csiBody_csiSeq (eight : Bool) {ps : List Text} (hps : ∀ p ∈ ps, DigStr p) {is : Text}
    (hi : ∀ x ∈ is, isIntermed x = true) {c : Char} (hc : isFinal c = true) (rest : Text) :
    csiBody (csiIntro eight) (joinSemi ps ++ (is ++ c :: rest)) = some (rawToken eight ps is c, rest) := by
  unfold csiBody
  simp only [numsLen_join hps (head_notParam hi hc rest)]
  rw [List.take_left', List.drop_left']
  · have h := takeWhile_stop (p := isIntermed) (a := is) (b := c :: rest) hi
      (fun y hy => by cases hy; exact inRange_disj hc (by decide))
    rw [h.1, h.2]
    simp [hc, rawToken, csiSeq]
  · rfl
  · rfl

theorem peelMatch_csiSeq (eight : Bool) {ps : List Text} (hps : ∀ p ∈ ps, DigStr p) {is : Text}
    (hi : ∀ x ∈ is, isIntermed x = true) {c : Char} (hc : isFinal c = true) (rest : Text) :
    peelMatch (csiSeq eight ps is c ++ rest) = ([], some (rawToken eight ps is c), rest) := by
  apply peelMatch_head
  have := csiBody_csiSeq eight hps hi hc rest
  cases eight
  · simpa [csiSeq, csiIntro, matchCsiAt] using this
  · have hne : CSI8 ≠ ESC := by decide
    simpa [csiSeq, csiIntro, matchCsiAt, hne] using this

theorem peel_csiSeq (md : Nat) (eight : Bool) {ps : List Text} (hps : ∀ p ∈ ps, DigStr p) {is : Text}
    (hi : ∀ x ∈ is, isIntermed x = true) {c : Char} (hc : isFinal c = true) (rest : Text) :
    peel md (csiSeq eight ps is c ++ rest) =
      match postNumbers md (joinSemi ps) with
      | .error e => .error e
      | .ok v => .ok ([], some { rawToken eight ps is c with numbers := some v }, rest) := by
  unfold peel
  rw [peelMatch_csiSeq eight hps hi hc]
  simp only [postToken, rawToken]
  cases postNumbers md (joinSemi ps) <;> rfl

theorem parseLoop_csiSeq (md : Nat) (eight : Bool) {ps : List Text} (hps : ∀ p ∈ ps, DigStr p) {is : Text}
    (hi : ∀ x ∈ is, isIntermed x = true) {c : Char} (hc : isFinal c = true) (rest : Text) :
    parseLoop md (csiSeq eight ps is c ++ rest) =
      match postNumbers md (joinSemi ps) with
      | .error e => .error e
      | .ok v =>
        match tokenItems (some { rawToken eight ps is c with numbers := some v }) with
        | .error e => .error e
        | .ok toks =>
          match parseLoop md rest with
          | .error e => .error e
          | .ok more => .ok (toks ++ more) := by
  rw [parseLoop_eq, peel_csiSeq md eight hps hi hc]
  cases postNumbers md (joinSemi ps) with
  | error e => rfl
  | ok v =>
    simp only [List.isEmpty_nil, if_true, List.nil_append]
    cases tokenItems (some { rawToken eight ps is c with numbers := some v }) with
    | error e => rfl
    | ok toks => cases parseLoop md rest <;> rfl

theorem parseLoop_csiSeq_ok (md : Nat) (eight : Bool) {ps : List Text} (hps : ∀ p ∈ ps, DigStr p) {is : Text}
    (hi : ∀ x ∈ is, isIntermed x = true) {c : Char} (hc : isFinal c = true) (rest : Text) (its : List Item) :
    parseLoop md (csiSeq eight ps is c ++ rest) = .ok its ↔
      ∃ v, postNumbers md (joinSemi ps) = .ok v ∧
      ∃ toks, tokenItems (some { rawToken eight ps is c with numbers := some v }) = .ok toks ∧
      ∃ more, parseLoop md rest = .ok more ∧ its = toks ++ more := by
  rw [parseLoop_csiSeq md eight hps hi hc]
  cases postNumbers md (joinSemi ps) with
  | error e => simp
  | ok v =>
    simp only [Except.ok.injEq, exists_eq_left']
    cases tokenItems (some { rawToken eight ps is c with numbers := some v }) with
    | error e => simp
    | ok toks => cases parseLoop md rest <;> simp [eq_comm]

theorem ansiLen_noIntro {x : Char} (h : x ≠ ESC ∧ x ≠ CSI8) (r : Text) : ansiLen (x :: r) = none := by
  simp [ansiLen, h.1, h.2]

theorem removeAnsiAux_append_noIntro {t : Text} (ht : NoIntro t) (rest : Text) :
    removeAnsiAux 0 (t ++ rest) = t ++ removeAnsiAux 0 rest := by
  induction t with
  | nil => rfl
  | cons c t ih =>
    simp only [List.cons_append, removeAnsiAux, ansiLen_noIntro (ht c (by simp))]
    rw [ih (fun x hx => ht x (by simp [hx]))]

theorem joinSemi_params {ps : List Text} (hps : ∀ p ∈ ps, DigStr p) : ∀ x ∈ joinSemi ps, isParam x = true := by
  -- `joinSemi ps` is all of a numbers-group match
  have e := numsLen_join hps (tail := []) (fun _ h => nomatch h)
  rw [List.append_nil] at e
  have h := numsLen_chars false (joinSemi ps)
  rwa [e, List.take_length] at h

theorem ansiBody_csi (k : Nat) {P is : Text} {c : Char} (hP : ∀ x ∈ P, isParam x = true)
    (hi : ∀ x ∈ is, isIntermed x = true) (hc : isFinal c = true) (rest : Text) :
    ansiBody k (P ++ (is ++ c :: rest)) = some (k + P.length + is.length + 1) := by
  have h1 := takeWhile_stop (p := isParam) hP (head_notParam hi hc rest)
  have h2 := takeWhile_stop (p := isIntermed) (b := c :: rest) hi
    (fun y hy => by cases hy; exact inRange_disj hc (by decide))
  unfold ansiBody
  simp only [h1.1, h1.2, h2.1, h2.2, hc, if_true]

theorem removeAnsiAux_csi (eight : Bool) {P is : Text} {c : Char} (hP : ∀ x ∈ P, isParam x = true)
    (hi : ∀ x ∈ is, isIntermed x = true) (hc : isFinal c = true) (rest : Text) :
    removeAnsiAux 0 (csiIntro eight ++ P ++ is ++ [c] ++ rest) = removeAnsiAux 0 rest := by
  refine removeAnsiAux_match (by cases eight <;> simp [csiIntro]) ?_
  have hb := fun k => ansiBody_csi k hP hi hc rest
  cases eight
  · simp [csiIntro, ansiLen, hb, show ESC ≠ CSI8 by decide]; omega
  · simp [csiIntro, ansiLen, hb]; omega

end Curtsies
