/-
  The SGR reader of Spec/Sgr.lean on the strings the library prints. `feed_sgr`: `ESC [ p1;...;pn m` is read as
  `applySgrs [int p1, .., int pn]` (no parameter = one zero), whatever the digit strings; `seq n` is the one parameter
  `dec n`, and `int(str(n)) = n` comes from core's `Nat.toDigits` lemmas. `colorStr c` is opening codes, text, closing
  codes: the first take the default state to `c.atts.eff`, the last take it back (`feed_chunk`).
-/
import Curtsies.Model.EscParse
import Curtsies.Spec.Sgr
namespace Curtsies

/-- The SGR codes curtsies emits (tied to the live `seq` table by `C01_table_seq`); `Spec.applySgr` also knows the
    "off" codes 22-25 and 27. -/
def supported : List Nat := [0,1,2,3,4,5,7,30,31,32,33,34,35,36,37,39,40,41,42,43,44,45,46,47,49]

/-- No character of `t` starts an escape sequence. `Operand.EscFree` (Model/Operand.lean) asks less: no `ESC [` pair,
    which is all that `from_str` looks for. -/
def NoIntro (t : Text) : Prop := ∀ x ∈ t, x ≠ ESC ∧ x ≠ CSI8
instance (t : Text) : Decidable (NoIntro t) := by unfold NoIntro; infer_instance

/-- One parameter `p_i` of a control sequence. -/
def DigStr (p : Text) : Prop := p ≠ [] ∧ ∀ x ∈ p, isDigit x = true
instance (p : Text) : Decidable (DigStr p) := by unfold DigStr; infer_instance

/-- `";".join(ps)` -/
def joinSemi : List Text → Text
  | [] => []
  | [p] => p
  | p :: q :: ps => p ++ ';' :: joinSemi (q :: ps)

def csiIntro (eight : Bool) : Text := if eight then [CSI8] else [ESC, '[']

/-- the characters of the control sequence `CSI p1;...;pn I* F` -/
def csiSeq (eight : Bool) (ps : List Text) (is : Text) (c : Char) : Text :=
  csiIntro eight ++ joinSemi ps ++ is ++ [c]

/-- decimal representation, as `"%s" % n` / `str(n)` prints it -/
def dec (n : Nat) : Text := (toString n).toList

open Spec

theorem isDigit_eq (c : Char) : isDigit c = c.isDigit := rfl

theorem intVal_eq (t : Text) : intVal t = Nat.ofDigitChars 10 t 0 := by
  unfold intVal Nat.ofDigitChars
  congr; funext a c; rw [Nat.mul_comm]; rfl

theorem intVal_dec (n : Nat) : intVal (dec n) = n := by
  rw [intVal_eq, dec, Nat.toString_eq_repr, Nat.toList_repr, Nat.ofDigitChars_ten_toDigits]

theorem dec_digStr (n : Nat) : DigStr (dec n) := by
  rw [dec, Nat.toString_eq_repr, Nat.toList_repr]
  exact ⟨Nat.toDigits_ne_nil, fun x hx => by
    rw [isDigit_eq]; exact Nat.isDigit_of_mem_toDigits (by decide) (by decide) hx⟩

theorem dec_length_le (n : Nat) {k : Nat} (hk : 0 < k) (h : n < 10 ^ k) : (dec n).length ≤ k := by
  rw [dec, Nat.toString_eq_repr, Nat.toList_repr]
  exact (Nat.length_toDigits_le_iff (by decide) hk).mpr h

theorem map_intVal_dec {ps : List Nat} (h : ∀ n ∈ ps, n ∈ supported) : (ps.map dec).map intVal = ps := by
  induction ps with
  | nil => rfl
  | cons n ns ih => rw [List.map_cons, List.map_cons, intVal_dec, ih fun m hm => h m (List.mem_cons_of_mem _ hm)]

theorem digitVal_of_isDigit {c : Char} (h : isDigit c = true) : Spec.digitVal c = some (c.toNat - 48) := by
  simp only [isDigit, Bool.and_eq_true, decide_eq_true_eq] at h
  unfold Spec.digitVal
  have : '0' ≤ c ∧ c ≤ '9' := h
  rw [if_pos this]
  rfl

theorem digitVal_semi : Spec.digitVal ';' = none := by decide
theorem digitVal_m : Spec.digitVal 'm' = none := by decide

theorem feed_digStr {p : Text} (hp : DigStr p) (done : List Nat) (cur : Option Nat) (g : Eff) (X : Text) :
    feed (.csi done cur) g (p ++ X) =
      feed (.csi done (some (p.foldl (fun a x => a * 10 + (x.toNat - 48)) (cur.getD 0)))) g X := by
  obtain ⟨hne, hd⟩ := hp
  induction p generalizing cur with
  | nil => exact absurd rfl hne
  | cons c p ih =>
    rw [List.forall_mem_cons] at hd
    rw [List.cons_append, feed]
    simp only [digitVal_of_isDigit hd.1]
    cases p with
    | nil => rw [List.nil_append, List.foldl_cons, List.foldl_nil]
    | cons c' p => rw [ih _ (List.cons_ne_nil _ _) hd.2, Option.getD_some, List.foldl_cons (l := c' :: p)]

/-- What a terminal (and `token_type`) reads from `ESC [ p1;..;pn m`: no parameter = one zero. -/
def sgrValues (ps : List Nat) : List Nat := if ps = [] then [0] else ps

theorem sgrValues_ne (ps : List Nat) : sgrValues ps ≠ [] := by
  unfold sgrValues; split <;> simp [*]

theorem sgrValues_supported {ps : List Nat} (h : ∀ n ∈ ps, n ∈ supported) : ∀ n ∈ sgrValues ps, n ∈ supported := by
  unfold sgrValues
  split
  · intro n hn; simp at hn; subst hn; decide
  · exact h

/-- `.csi done none`: just after the introducer, or after the `;` that closed the last of `done`. -/
theorem feed_params (ps : List Text) (hps : ∀ p ∈ ps, DigStr p) (done : List Nat) (g : Eff) (rest : Text) :
    feed (.csi done none) g (joinSemi ps ++ 'm' :: rest) =
      (feed .ground (applySgrs (done ++ sgrValues (ps.map intVal)) g).1 rest).addCtls
        (applySgrs (done ++ sgrValues (ps.map intVal)) g).2 := by
  induction ps generalizing done with
  | nil =>
    simp only [joinSemi, List.nil_append, feed, digitVal_m]
    simp [sgrValues]
  | cons p ps ih =>
    cases ps with
    | nil =>
      simp only [joinSemi]
      rw [feed_digStr (hps p (by simp))]
      simp only [feed, digitVal_m]
      simp [sgrValues, intVal]
    | cons q ps =>
      simp only [joinSemi, List.append_assoc, List.cons_append]
      rw [feed_digStr (hps p (by simp))]
      simp only [feed, digitVal_semi, if_true, Option.getD_some]
      rw [ih (fun x hx => hps x (by simp [hx]))]
      simp [sgrValues, intVal]

theorem feed_sgr (ps : List Text) (hps : ∀ p ∈ ps, DigStr p) (g : Eff) (rest : Text) :
    feed .ground g (csiSeq false ps [] 'm' ++ rest) =
      (feed .ground (applySgrs (sgrValues (ps.map intVal)) g).1 rest).addCtls
        (applySgrs (sgrValues (ps.map intVal)) g).2 := by
  have e : csiSeq false ps [] 'm' ++ rest = Spec.ESC :: ('[' :: (joinSemi ps ++ 'm' :: rest)) := by
    simp [csiSeq, csiIntro, Curtsies.ESC, Spec.ESC]
  rw [e]
  simp only [feed, if_true]
  rw [feed_params ps hps]
  rfl

theorem seq_eq (n : Nat) : seq n = csiSeq false [dec n] [] 'm' := by
  simp [seq, csiSeq, csiIntro, joinSemi, dec]

theorem feed_seq (n : Nat) (g : Eff) (rest : Text) :
    feed .ground g (seq n ++ rest) = (feed .ground (applySgrs [n] g).1 rest).addCtls (applySgrs [n] g).2 := by
  rw [seq_eq, feed_sgr _ (fun p hp => by rw [List.mem_singleton.mp hp]; exact dec_digStr n)]
  simp [sgrValues, intVal_dec]

theorem Out.addCtls_addCtls (o : Out) (a b : List Ctl) : (o.addCtls a).addCtls b = o.addCtls (b ++ a) := by
  simp [Out.addCtls]

theorem applySgrs_cons (n : Nat) (ns : List Nat) (g : Eff) :
    applySgrs (n :: ns) g =
      ((applySgrs ns (applySgrs [n] g).1).1, (applySgrs [n] g).2 ++ (applySgrs ns (applySgrs [n] g).1).2) := by
  simp only [applySgrs]
  cases applySgr n g <;> rfl

theorem feed_seqs (ns : List Nat) (g : Eff) (rest : Text) :
    feed .ground g (ns.flatMap seq ++ rest) =
      (feed .ground (applySgrs ns g).1 rest).addCtls (applySgrs ns g).2 := by
  induction ns generalizing g with
  | nil => rfl
  | cons n ns ih =>
    rw [List.flatMap_cons, List.append_assoc, feed_seq, ih, Out.addCtls_addCtls]
    conv => rhs; rw [applySgrs_cons]

theorem feed_text (s : Text) (g : Eff) (rest : Text) (hs : NoIntro s) :
    feed .ground g (s ++ rest) =
      { feed .ground g rest with cells := s.map (fun c => (c, g)) ++ (feed .ground g rest).cells } := by
  induction s with
  | nil => simp
  | cons c s ih =>
    have hc : c ≠ Spec.ESC ∧ c ≠ Spec.CSI8 := hs c (by simp)
    simp only [List.cons_append, feed, hc.1, hc.2, if_false]
    rw [ih (fun d hd => hs d (by simp [hd]))]
    simp [Out.consCell]

def optCode (b : Bool) (n : Nat) : List Nat := if b then [n] else []
def optCol (v : Option (Fin 8)) (code : Fin 8 → Nat) : List Nat :=
  match v with | some i => [code i] | none => []
def optReset (v : Option (Fin 8)) (n : Nat) : List Nat :=
  match v with | some _ => [n] | none => []
/-- SGR codes of the opening sequences of a chunk, outermost first. Right-nested down to `++ []`, and `closeCodes`
    left-nested up from `[] ++`: the shapes the eight `wrap*_eq` rewrites build from `[]`, so `colorStr_eq` ends by `rfl`. -/
def openCodes (a : Atts) : List Nat :=
  optCode (a.underline = some true) 4 ++ (optCode (a.italic = some true) 3 ++ (optCode (a.invert = some true) 7 ++
  (optCol a.fg fgCode ++ (optCode (a.dark = some true) 2 ++ (optCode (a.bold = some true) 1 ++
  (optCode (a.blink = some true) 5 ++ (optCol a.bg bgCode ++ [])))))))
def closeCodes (a : Atts) : List Nat :=
  ((((((([] ++ optReset a.bg 49) ++ optCode (a.blink = some true) 0) ++ optCode (a.bold = some true) 0) ++
  optCode (a.dark = some true) 0) ++ optReset a.fg 39) ++ optCode (a.invert = some true) 0) ++
  optCode (a.italic = some true) 0) ++ optCode (a.underline = some true) 0

theorem wrapStyle_eq (code : Nat) (v : Option Bool) (O C : List Nat) (t : Text) :
    wrapStyle code v (O.flatMap seq ++ t ++ C.flatMap seq)
      = (optCode (v = some true) code ++ O).flatMap seq ++ t ++ (C ++ optCode (v = some true) 0).flatMap seq := by
  rcases v with _|_|_ <;> simp [wrapStyle, optCode, RESET_ALL]

theorem wrapColor_eq (code : Fin 8 → Nat) (reset : Nat) (v : Option (Fin 8)) (O C : List Nat) (t : Text) :
    wrapColor code reset v (O.flatMap seq ++ t ++ C.flatMap seq)
      = (optCol v code ++ O).flatMap seq ++ t ++ (C ++ optReset v reset).flatMap seq := by
  rcases v with _|i <;> simp [wrapColor, optCol, optReset]

theorem colorStr_eq (c : Chunk) :
    c.colorStr = (openCodes c.atts).flatMap seq ++ c.s ++ (closeCodes c.atts).flatMap seq := by
  have h0 : c.s = ([] : List Nat).flatMap seq ++ c.s ++ ([] : List Nat).flatMap seq := by simp
  unfold Chunk.colorStr openCodes closeCodes
  simp only []
  conv => lhs; rw [h0]
  rw [wrapColor_eq, wrapStyle_eq, wrapStyle_eq, wrapStyle_eq, wrapColor_eq, wrapStyle_eq, wrapStyle_eq, wrapStyle_eq]
  rfl

theorem optCode_supported {b : Bool} {k : Nat} (hk : k ∈ supported) : ∀ n ∈ optCode b k, n ∈ supported := by
  cases b <;> simp [optCode, hk]
theorem optCol_supported {v : Option (Fin 8)} {code : Fin 8 → Nat} (h : ∀ i, code i ∈ supported) :
    ∀ n ∈ optCol v code, n ∈ supported := by
  cases v <;> simp [optCol, h]
theorem optReset_supported {v : Option (Fin 8)} {k : Nat} (hk : k ∈ supported) :
    ∀ n ∈ optReset v k, n ∈ supported := by
  cases v <;> simp [optReset, hk]

theorem openCodes_supported (a : Atts) : ∀ n ∈ openCodes a, n ∈ supported := by
  simp only [openCodes, List.forall_mem_append]
  exact ⟨optCode_supported (by decide), optCode_supported (by decide), optCode_supported (by decide),
    optCol_supported (by decide), optCode_supported (by decide), optCode_supported (by decide),
    optCode_supported (by decide), optCol_supported (by decide), nofun⟩

theorem closeCodes_supported (a : Atts) : ∀ n ∈ closeCodes a, n ∈ supported := by
  have zero : ∀ b, ∀ n ∈ optCode b 0, n ∈ supported := fun _ => optCode_supported (by decide)
  simp only [closeCodes, List.nil_append, List.append_assoc, List.forall_mem_append]
  exact ⟨optReset_supported (by decide), zero _, zero _, zero _, optReset_supported (by decide), zero _, zero _, zero _⟩

theorem applySgr_fg (i : Fin 8) (g : Eff) : applySgr (fgCode i) g = some { g with fg := some i } := by
  have hi := i.isLt
  unfold applySgr fgCode
  rw [if_neg (by omega), if_neg (by omega), if_neg (by omega), if_neg (by omega), if_neg (by omega),
    if_neg (by omega), if_neg (by omega), dif_pos (by omega)]
  simp
theorem applySgr_bg (i : Fin 8) (g : Eff) : applySgr (bgCode i) g = some { g with bg := some i } := by
  have hi := i.isLt
  unfold applySgr bgCode
  rw [if_neg (by omega), if_neg (by omega), if_neg (by omega), if_neg (by omega), if_neg (by omega),
    if_neg (by omega), if_neg (by omega), dif_neg (by omega), if_neg (by omega), dif_pos (by omega)]
  simp

theorem applySgrs_optCode {b : Bool} (n : Nat) {rest : List Nat} {g g' : Eff} (h : applySgr n g = some g') :
    applySgrs (optCode b n ++ rest) g = applySgrs rest (if b then g' else g) := by
  cases b <;> simp [optCode, applySgrs, h]
theorem applySgrs_optCol_fg (fg : Option (Fin 8)) (rest : List Nat) (g : Eff) :
    applySgrs (optCol fg fgCode ++ rest) g = applySgrs rest { g with fg := fg.orElse fun _ => g.fg } := by
  cases fg <;> simp [optCol, applySgrs, applySgr_fg]
theorem applySgrs_optCol_bg (bg : Option (Fin 8)) (rest : List Nat) (g : Eff) :
    applySgrs (optCol bg bgCode ++ rest) g = applySgrs rest { g with bg := bg.orElse fun _ => g.bg } := by
  cases bg <;> simp [optCol, applySgrs, applySgr_bg]
theorem applySgrs_optReset {v : Option (Fin 8)} (n : Nat) {rest : List Nat} {g g' : Eff} (h : applySgr n g = some g') :
    applySgrs (optReset v n ++ rest) g = applySgrs rest (if v.isSome then g' else g) := by
  cases v <;> simp [optReset, applySgrs, h]

theorem flag_eq (o : Option Bool) : flag o = decide (o = some true) := by
  rcases o with _|_|_ <;> rfl

/- Written `b || g.slot` so that the eight steps of `open_state` compose without a case split per attribute. -/
theorem optCode_underline (b : Bool) (rest : List Nat) (g : Eff) :
    applySgrs (optCode b 4 ++ rest) g = applySgrs rest { g with underline := b || g.underline } := by
  rw [applySgrs_optCode 4 rfl]; cases b <;> rfl
theorem optCode_italic (b : Bool) (rest : List Nat) (g : Eff) :
    applySgrs (optCode b 3 ++ rest) g = applySgrs rest { g with italic := b || g.italic } := by
  rw [applySgrs_optCode 3 rfl]; cases b <;> rfl
theorem optCode_invert (b : Bool) (rest : List Nat) (g : Eff) :
    applySgrs (optCode b 7 ++ rest) g = applySgrs rest { g with invert := b || g.invert } := by
  rw [applySgrs_optCode 7 rfl]; cases b <;> rfl
theorem optCode_dark (b : Bool) (rest : List Nat) (g : Eff) :
    applySgrs (optCode b 2 ++ rest) g = applySgrs rest { g with dark := b || g.dark } := by
  rw [applySgrs_optCode 2 rfl]; cases b <;> rfl
theorem optCode_bold (b : Bool) (rest : List Nat) (g : Eff) :
    applySgrs (optCode b 1 ++ rest) g = applySgrs rest { g with bold := b || g.bold } := by
  rw [applySgrs_optCode 1 rfl]; cases b <;> rfl
theorem optCode_blink (b : Bool) (rest : List Nat) (g : Eff) :
    applySgrs (optCode b 5 ++ rest) g = applySgrs rest { g with blink := b || g.blink } := by
  rw [applySgrs_optCode 5 rfl]; cases b <;> rfl

theorem open_state (a : Atts) : applySgrs (openCodes a) {} = (a.eff, []) := by
  obtain ⟨bg, blink, bold, dark, fg, invert, italic, underline⟩ := a
  simp only [openCodes]
  rw [optCode_underline, optCode_italic, optCode_invert, applySgrs_optCol_fg, optCode_dark, optCode_bold, optCode_blink,
    applySgrs_optCol_bg]
  simp only [applySgrs, Atts.eff, flag_eq, Bool.or_false]
  cases fg <;> cases bg <;> rfl

theorem optCode_zero3 (b1 b2 b3 : Bool) (rest : List Nat) (g : Eff) :
    applySgrs (optCode b1 0 ++ (optCode b2 0 ++ (optCode b3 0 ++ rest))) g
      = applySgrs rest (if b1 || b2 || b3 then {} else g) := by
  rw [applySgrs_optCode 0 rfl, applySgrs_optCode 0 rfl, applySgrs_optCode 0 rfl]
  cases b1 <;> cases b2 <;> cases b3 <;> rfl

theorem close_state (a : Atts) : applySgrs (closeCodes a) a.eff = ({}, []) := by
  obtain ⟨bg, blink, bold, dark, fg, invert, italic, underline⟩ := a
  simp only [closeCodes, List.nil_append, List.append_assoc]
  rw [applySgrs_optReset 49 rfl, optCode_zero3, applySgrs_optReset 39 rfl]
  rw [← List.append_nil (optCode (decide (underline = some true)) 0), optCode_zero3]
  simp only [applySgrs, Atts.eff, flag_eq]
  cases h2 : (decide (invert = some true) || decide (italic = some true) || decide (underline = some true))
  · cases h1 : (decide (blink = some true) || decide (bold = some true) || decide (dark = some true))
    · -- no style is on: 49 and 39 reset the colours
      simp only [Bool.or_eq_false_iff] at h1 h2
      obtain ⟨⟨a1, a2⟩, a3⟩ := h1
      obtain ⟨⟨a4, a5⟩, a6⟩ := h2
      simp only [a1, a2, a3, a4, a5, a6]
      cases fg <;> cases bg <;> rfl
    · -- the 0 of blink, bold or dark resets everything, a 39 after it changes nothing
      cases fg <;> rfl
  · -- the 0 of invert, italic or underline comes after all the rest
    rfl

theorem feed_chunk (c : Chunk) (rest : Text) (hs : NoIntro c.s) :
    feed .ground {} (c.colorStr ++ rest) =
      { feed .ground {} rest with
        cells := c.s.map (fun ch => (ch, c.atts.eff)) ++ (feed .ground {} rest).cells } := by
  rw [colorStr_eq, List.append_assoc, List.append_assoc, feed_seqs, open_state, feed_text _ _ _ hs,
      feed_seqs, close_state]
  rfl

end Curtsies
