/- The key decoder model for arbitrary tables: the vocabulary of C03's and C20's statements; `get_key` decides (wait /
   key / exception: `KeyTables.cut`, in which the naming mode plays no part) before it names (`getKey_spec`); the
   `find_key` loop over a run of waits (`findKeyLoop_skip`) and up to one whole keypress (`findKey_unit`). -/
import Curtsies.Model.Keys
namespace Curtsies
open Spec.Utf8

/-- all table entries, `CURSES_NAMES` first (the order `KEYMAP_PREFIXES` is computed in) -/
def KeyTables.all (T : KeyTables) : List (List Nat × List Nat) := T.curses ++ T.curtsies

def KeyTables.isKey (T : KeyTables) (seq : List Nat) : Bool :=
  (T.curtsies.lookup seq).isSome || (T.curses.lookup seq).isSome

/-- what `get_key` decides, the name apart -/
inductive Cut | wait | key | fail (e : PyErr)
  deriving DecidableEq, Repr

def cutOf : Except PyErr (Option KeyVal) → Cut
  | .ok none => .wait
  | .ok (some _) => .key
  | .error e => .fail e

def KeyTables.cut (T : KeyTables) (seq : List Nat) (enc : Enc) (full : Bool) : Cut :=
  if seq.length > T.maxSize then .fail .valueError
  else if full && keyKnown T seq enc then .key
  else if T.prefixes.contains seq || couldBeUnfinishedChar seq enc then .wait
  else if keyKnown T seq enc then .key
  else .fail .unicodeDecodeError

/-- `k` is what the property calls "its table name" for the table key `u`. curtsies: `u` HAS a curtsies name; curses:
    the curses name when there is one, otherwise (an entry of CURTSIES_NAMES alone, as most are) the decoded bytes, or
    `xHH` for a single undecodable byte. -/
def tableName (T : KeyTables) (u : List Nat) (enc : Enc) : KeyMode → KeyVal → Prop
  | .curtsies, k => ∃ n, T.curtsies.lookup u = some n ∧ k = .text n
  | .curses, k =>
    match T.curses.lookup u with
    | some n => k = .text n
    | none =>
      match decode enc u with
      | some cs => k = .text cs
      | none => ∃ b, u = [b] ∧ k = .text (xName b)
  | .bytes, k => k = .bytes u

/-- what a keypress that is not a table key is called -/
def plainKey (mode : KeyMode) (cs p : List Nat) : KeyVal :=
  match mode with
  | .bytes => .bytes p
  | _ => .text cs

variable {T : KeyTables}

theorem KeyTables.isKey_mem {seq : List Nat} (h : T.isKey seq = true) : ∃ e ∈ T.all, e.1 = seq := by
  simp only [KeyTables.isKey, Bool.or_eq_true, Option.isSome_iff_exists] at h
  rcases h with ⟨n, h⟩ | ⟨n, h⟩
  · exact ⟨(seq, n), List.mem_append_right _ (lookup_mem h), rfl⟩
  · exact ⟨(seq, n), List.mem_append_left _ (lookup_mem h), rfl⟩

theorem keyKnown_of_isKey {u : List Nat} (hu : T.isKey u = true) (enc : Enc) : keyKnown T u enc = true := by
  simp only [KeyTables.isKey] at hu
  simp only [keyKnown, hu, Bool.true_or]

/-- `get_key` decides before it names. `getKey_wait`, `getKey_known`, `getKey_decodable` do not go through this: their
    hypotheses name the branch, and `simp` takes it in `getKey` as it would in `cut`. -/
theorem getKey_spec (T : KeyTables) (seq : List Nat) (enc : Enc) (mode : KeyMode) (full : Bool) :
    match T.cut seq enc full with
    | .fail e => getKey T seq enc mode full = .error e ∧ (e = .valueError ∨ e = .unicodeDecodeError)
    | .key => getKey T seq enc mode full = (keyName T seq enc mode).map some ∧ keyKnown T seq enc = true
    | .wait => getKey T seq enc mode full = .ok none ∧ (full && keyKnown T seq enc) = false ∧
        (seq ∈ T.prefixes ∨ couldBeUnfinishedChar seq enc = true) := by
  unfold getKey KeyTables.cut
  by_cases h1 : seq.length > T.maxSize
  · rw [if_pos h1, if_pos h1]
    exact ⟨rfl, .inl rfl⟩
  rw [if_neg h1, if_neg h1]
  by_cases h2 : (full && keyKnown T seq enc) = true
  · rw [if_pos h2, if_pos h2]
    exact ⟨rfl, (Bool.and_eq_true _ _ ▸ h2).2⟩
  rw [if_neg h2, if_neg h2]
  by_cases h3 : (T.prefixes.contains seq || couldBeUnfinishedChar seq enc) = true
  · rw [if_pos h3, if_pos h3]
    exact ⟨rfl, Bool.not_eq_true _ ▸ h2, by simpa using h3⟩
  rw [if_neg h3, if_neg h3]
  by_cases h4 : keyKnown T seq enc = true
  · rw [if_pos h4, if_pos h4]
    exact ⟨rfl, h4⟩
  · rw [if_neg h4, if_neg h4]
    exact ⟨rfl, .inr rfl⟩

theorem getKey_some_keyName {s : List Nat} {enc : Enc} {mode : KeyMode} {full : Bool} {k : KeyVal}
    (h : getKey T s enc mode full = .ok (some k)) : keyName T s enc mode = .ok k := by
  have hs := getKey_spec T s enc mode full
  split at hs
  -- `cut` says fail, key, wait
  · rw [hs.1] at h
    cases h
  · rw [hs.1] at h
    cases hk : keyName T s enc mode with
    | error e =>
      rw [hk] at h
      cases h
    | ok k' =>
      rw [hk] at h
      cases h
      rfl
  · rw [hs.1] at h
    cases h

theorem getKey_bytes {s : List Nat} {enc : Enc} {full : Bool} {k : KeyVal}
    (h : getKey T s enc .bytes full = .ok (some k)) : k = .bytes s := by
  have := getKey_some_keyName h
  simp only [keyName, Except.ok.injEq] at this
  exact this.symm

theorem getKey_wait {seq : List Nat} (hl : seq.length ≤ T.maxSize) (enc : Enc) (mode : KeyMode)
    (h : seq ∈ T.prefixes ∨ couldBeUnfinishedChar seq enc = true) : getKey T seq enc mode false = .ok none := by
  have h1 : ¬ seq.length > T.maxSize := by omega
  simp [getKey, h1, h]

theorem getKey_known {seq : List Nat} (hl : seq.length ≤ T.maxSize) (enc : Enc) (mode : KeyMode) (full : Bool)
    (hk : keyKnown T seq enc = true)
    (h : full = true ∨ (seq ∉ T.prefixes ∧ couldBeUnfinishedChar seq enc = false)) :
    getKey T seq enc mode full = (keyName T seq enc mode).map some := by
  have h1 : ¬ seq.length > T.maxSize := by omega
  rcases h with rfl | ⟨hp, hu⟩
  · simp [getKey, h1, hk]
  · cases full <;> simp [getKey, h1, hk, hp, hu]

theorem keyKnown_of_decode {seq cs : List Nat} {enc : Enc} (h : decode enc seq = some cs) :
    keyKnown T seq enc = true := by simp [keyKnown, decodable, h]

theorem couldBeUnfinishedChar_of_decode {seq cs : List Nat} {enc : Enc} (h : decode enc seq = some cs) :
    couldBeUnfinishedChar seq enc = false := by simp [couldBeUnfinishedChar, decodable, h]

theorem getKey_decodable {seq cs : List Nat} {enc : Enc} (hl : seq.length ≤ T.maxSize) (hd : decode enc seq = some cs)
    (mode : KeyMode) {full : Bool} (h : full = true ∨ seq ∉ T.prefixes) :
    getKey T seq enc mode full = (keyName T seq enc mode).map some :=
  getKey_known hl enc mode full (keyKnown_of_decode hd) (h.imp id fun h => ⟨h, couldBeUnfinishedChar_of_decode hd⟩)

theorem findKeyLoop_wait {enc : Enc} {mode : KeyMode} {cur : List Nat} {b : Nat} {rest : List Nat}
    (h : getKey T (cur ++ [b]) enc mode rest.isEmpty = .ok none) :
    findKeyLoop T enc mode cur (b :: rest) = findKeyLoop T enc mode (cur ++ [b]) rest := by
  simp [findKeyLoop, h]

theorem findKeyLoop_key {enc : Enc} {mode : KeyMode} {cur : List Nat} {b : Nat} {rest : List Nat} {k : KeyVal}
    (h : getKey T (cur ++ [b]) enc mode rest.isEmpty = .ok (some k)) :
    findKeyLoop T enc mode cur (b :: rest) = .ok (some (k, cur ++ [b], rest)) := by
  simp [findKeyLoop, h]

theorem findKeyLoop_skip (enc : Enc) (mode : KeyMode) (w : List Nat) (cur rest : List Nat) (hrest : rest ≠ [])
    (hw : ∀ i, 1 ≤ i → i ≤ w.length → getKey T (cur ++ w.take i) enc mode false = .ok none) :
    findKeyLoop T enc mode cur (w ++ rest) = findKeyLoop T enc mode (cur ++ w) rest := by
  induction w generalizing cur with
  | nil => simp
  | cons b t ih =>
    have hne : (t ++ rest).isEmpty = false :=
      List.isEmpty_eq_false_iff.mpr (List.append_ne_nil_of_right_ne_nil t hrest)
    have h0 : getKey T (cur ++ [b]) enc mode (t ++ rest).isEmpty = .ok none := by
      rw [hne]
      exact hw 1 (Nat.le_refl 1) (Nat.succ_pos _)
    rw [List.cons_append, findKeyLoop_wait h0, ih (cur ++ [b])]
    · simp
    · intro i _ hi
      simpa using hw (i + 1) (Nat.le_add_left 1 i) (Nat.succ_le_succ hi)

theorem findKey_unit (enc : Enc) (mode : KeyMode) (u rest : List Nat) (hne : u ≠ [])
    (hwait : ∀ i, 1 ≤ i → i < u.length → getKey T (u.take i) enc mode false = .ok none)
    {k : KeyVal} (hk : getKey T u enc mode rest.isEmpty = .ok (some k)) :
    findKey T enc mode (u ++ rest) = .ok (some (k, u, rest)) := by
  obtain ⟨w, b, rfl⟩ : ∃ w b, u = w ++ [b] := ⟨u.dropLast, u.getLast hne, (List.dropLast_concat_getLast hne).symm⟩
  unfold findKey
  rw [List.append_assoc, findKeyLoop_skip enc mode w [] ([b] ++ rest) (by simp)]
  · simpa using findKeyLoop_key hk
  · intro i h1 hi
    have := hwait i h1 (by simpa [Nat.lt_succ_iff] using hi)
    rwa [List.take_append_of_le_length hi] at this

theorem findKeyLoop_ok {enc : Enc} {mode : KeyMode} {cur un : List Nat} {o : Option (KeyVal × List Nat × List Nat)}
    (h : findKeyLoop T enc mode cur un = .ok o) :
    match o with
    | none => cur = [] ∧ un = []
    | some (k, c, r) =>
      c ++ r = cur ++ un ∧ (∃ m, m ≠ [] ∧ c = cur ++ m) ∧ ∃ full, getKey T c enc mode full = .ok (some k) := by
  induction un generalizing cur with
  | nil =>
    simp only [findKeyLoop] at h
    split at h
    · cases h
      exact ⟨List.isEmpty_iff.mp ‹_›, rfl⟩
    · cases h
  | cons b rest ih =>
    simp only [findKeyLoop] at h
    split at h
    · cases h
    · rename_i hg
      cases h
      exact ⟨by simp, ⟨[b], by simp, rfl⟩, _, hg⟩
    · have := ih h
      cases o with
      | none => exact absurd this.1 (by simp)
      | some p =>
        obtain ⟨h1, ⟨m, _, hc⟩, h3⟩ := this
        exact ⟨by simpa using h1, ⟨b :: m, by simp, by simpa using hc⟩, h3⟩

theorem keyName_plain {p cs : List Nat} (enc : Enc) (mode : KeyMode) (hnk : T.isKey p = false)
    (hdec : decode enc p = some cs) : keyName T p enc mode = .ok (plainKey mode cs p) := by
  simp only [KeyTables.isKey, Bool.or_eq_false_iff, Option.isSome_eq_false_iff, Option.isNone_iff_eq_none] at hnk
  cases mode <;> simp [keyName, hnk.1, hnk.2, hdec, plainKey]

theorem findKey_decodable_unit (enc : Enc) (mode : KeyMode) {p cs : List Nat} (rest : List Nat)
    (hl : p.length ≤ T.maxSize) (hne : p ≠ []) (hdec : decode enc p = some cs) (hnk : T.isKey p = false)
    (hnp : p ∉ T.prefixes)
    (hwait : ∀ i, 1 ≤ i → i < p.length → getKey T (p.take i) enc mode false = .ok none) :
    findKey T enc mode (p ++ rest) = .ok (some (plainKey mode cs p, p, rest)) := by
  apply findKey_unit enc mode p rest hne hwait
  rw [getKey_decodable hl hdec mode (.inr hnp), keyName_plain enc mode hnk hdec]
  rfl

end Curtsies
