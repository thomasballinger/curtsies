/-
  `parse_args` computes the declarative reading `denote` (Spec/ParseArgs.lean) when keyword names are distinct
  (`parseArgs_eq_denote`) and raises nothing but ValueError on any input (`parseArgs_error`), given `TablesWF`.

  `denote` is an invariant of the positional loop.  The loop's state - the dict so far, the arguments still to come - is
  itself a specification, with denotation `den`; an iteration either moves one argument into the dict and keeps the
  denotation or rejects it, and then the denotation is `none` (`den_cons`); both are seen at the one
  attribute the argument names (`slotC_cons`, `slotS_cons`, from `resolveColour_cons`, `resolveStyle_true`).  With no
  argument left the denotation is what the rest of `parse_args` computes (`parseTail_eq`).
-/
import Curtsies.Spec.ParseArgs
namespace Curtsies

theorem Kw.get?_cons (p : String × ArgVal) (rest : Kw) (k : String) :
    Kw.get? (p :: rest) k = if p.1 = k then some p.2 else Kw.get? rest k := by
  by_cases h : p.1 = k <;> simp [Kw.get?, h]

theorem Kw.has_cons (p : String × ArgVal) (rest : Kw) (k : String) :
    Kw.has (p :: rest) k = (decide (p.1 = k) || Kw.has rest k) := rfl

theorem Kw.has_eq (kw : Kw) (k : String) : kw.has k = (kw.get? k).isSome := by
  rw [Kw.get?, Option.isSome_map, Bool.eq_iff_iff, List.find?_isSome, Kw.has, List.any_eq_true]

theorem Kw.get?_map_set (kw : Kw) (k k' : String) (v : ArgVal) :
    Kw.get? (kw.map fun p => if p.1 == k then (k, v) else p) k' =
      if k' = k then (if kw.has k then some v else none) else kw.get? k' := by
  induction kw with
  | nil => simp [Kw.get?, Kw.has]
  | cons p rest ih =>
    rw [List.map_cons, Kw.get?_cons, ih, Kw.has_cons, Kw.get?_cons]
    by_cases e : k' = k
    · subst e
      by_cases hp : p.1 = k' <;> simp [hp]
    · by_cases hp : p.1 = k
      · simp [hp, e, Ne.symm e]
      · simp [hp, e]

theorem Kw.get?_append (l1 l2 : Kw) (k : String) :
    Kw.get? (l1 ++ l2) k = (Kw.get? l1 k).orElse fun _ => Kw.get? l2 k := by
  simp only [Kw.get?, List.find?_append]
  cases List.find? _ l1 <;> rfl

theorem Kw.get?_set (kw : Kw) (k k' : String) (v : ArgVal) :
    (kw.set k v).get? k' = if k' = k then some v else kw.get? k' := by
  unfold Kw.set
  by_cases hh : kw.has k = true
  · rw [if_pos hh, Kw.get?_map_set, if_pos hh]
  · rw [if_neg hh, Kw.get?_append, Kw.get?_cons]
    have hn : kw.get? k = none := by
      rw [Kw.has_eq] at hh; simpa using hh
    by_cases e : k' = k
    · subst e; simp [hn]
    · have e' : ¬ k = k' := fun h => e h.symm
      simp only [e, e', if_false]
      cases kw.get? k' <;> rfl

theorem Kw.keys_set (kw : Kw) (k : String) (v : ArgVal) :
    (kw.set k v).map Prod.fst = if kw.has k then kw.map Prod.fst else kw.map Prod.fst ++ [k] := by
  unfold Kw.set
  by_cases hh : kw.has k = true
  · simp only [hh, if_true, List.map_map]
    apply List.map_congr_left
    intro p _
    by_cases hp : p.1 = k <;> simp [hp]
  · simp [hh]

theorem Kw.nodup_set (kw : Kw) (k : String) (v : ArgVal) (h : (kw.map Prod.fst).Nodup) :
    ((kw.set k v).map Prod.fst).Nodup := by
  rw [Kw.keys_set]
  by_cases hh : kw.has k = true
  · rwa [if_pos hh]
  · have hk : k ∉ kw.map Prod.fst := fun ha => hh (by simpa [Kw.has] using ha)
    rw [if_neg hh, List.nodup_append]
    refine ⟨h, List.pairwise_singleton _ k, fun a ha b hb e => hk ?_⟩
    rwa [← List.mem_singleton.mp hb, ← e]

theorem Kw.nodup_del (kw : Kw) (k : String) (h : (kw.map Prod.fst).Nodup) : ((kw.del k).map Prod.fst).Nodup :=
  h.sublist (List.filter_sublist.map _)

theorem Kw.all_keys (kw : Kw) (P : String → Bool) : kw.all (fun p => P p.1) = (kw.map Prod.fst).all P :=
  List.all_map.symm

theorem Kw.all_set (kw : Kw) (k : String) (v : ArgVal) (P : String → Bool) (hP : P k = true) :
    (kw.set k v).all (fun p => P p.1) = kw.all (fun p => P p.1) := by
  rw [Kw.all_keys, Kw.all_keys, Kw.keys_set]
  by_cases hh : kw.has k = true <;> simp [hh, hP]

theorem Kw.del_cons (p : String × ArgVal) (rest : Kw) (k : String) :
    Kw.del (p :: rest) k = if p.1 = k then Kw.del rest k else p :: Kw.del rest k := by
  by_cases hp : p.1 = k <;> simp [Kw.del, hp]

theorem get?_del (kw : Kw) (k k' : String) : (kw.del k).get? k' = if k' = k then none else kw.get? k' := by
  simp only [Kw.get?, Kw.del, List.find?_filter]
  by_cases e : k' = k
  · subst e
    rw [if_pos rfl, List.find?_eq_none.mpr fun p _ => by simp]; rfl
  · rw [if_neg e]
    congr 2; funext p
    by_cases h : p.1 = k' <;> simp [h, e]

theorem Kw.del_none (kw : Kw) (k : String) (h : kw.get? k = none) : kw.del k = kw := by
  rw [Kw.get?, Option.map_eq_none_iff, List.find?_eq_none] at h
  exact List.filter_eq_self.mpr fun p hp => by simpa using h p hp

theorem Kw.mem_of_get? (kw : Kw) (k : String) (v : ArgVal) (h : kw.get? k = some v) : (k, v) ∈ kw := by
  obtain ⟨p, hp, rfl⟩ := Option.map_eq_some_iff.mp h
  have e : p.1 = k := by simpa using List.find?_some hp
  rw [← e]; exact List.mem_of_find?_eq_some hp

theorem Kw.mem_iff_get? (kw : Kw) (h : (kw.map Prod.fst).Nodup) (k : String) (v : ArgVal) :
    (k, v) ∈ kw ↔ kw.get? k = some v := by
  refine ⟨fun hm => ?_, Kw.mem_of_get? kw k v⟩
  induction kw with
  | nil => cases hm
  | cons p rest ih =>
    have hn := List.nodup_cons.mp h
    rw [Kw.get?_cons]
    rcases List.mem_cons.mp hm with rfl | hm
    · rw [if_pos rfl]
    · have hne : p.1 ≠ k := fun e => hn.1 (by rw [e]; exact List.mem_map.mpr ⟨(k, v), hm, rfl⟩)
      rw [if_neg hne]; exact ih hn.2 hm

theorem specColour_eq (base i : Int) : specColour base i = colourIndex base (.int i) := rfl
theorem afterOn_eq (s : String) : afterOn s = strDrop3 s := rfl
theorem onPrefix_eq (l : String) : onPrefix l = startsWithOn l := by
  unfold onPrefix startsWithOn
  rw [show "on_".toList = ['o', 'n', '_'] from by decide, Bool.eq_iff_iff, List.isPrefixOf_iff_prefix,
    List.prefix_iff_eq_take, beq_iff_eq]
  exact eq_comm

/-- `fg` and `bg` hold a colour number (the `if "fg" in kwargs` / `if "bg" in kwargs` blocks of `parse_args`), the six
    keys of `STYLES` a bool. -/
def Key.isColour : Key → Bool
  | .fg | .bg => true
  | _ => false
/-- The colour key's dict, `FG_COLORS` or `BG_COLORS`; a style key has none. -/
def Key.table : Key → List (String × Nat)
  | .fg => Generated.fgColors
  | .bg => Generated.bgColors
  | _ => []
/-- The least colour number of `table`: `FG_COLORS` is `range(30, 38)`, `BG_COLORS` `range(40, 48)`
    (termformatconstants.py); it matters at `fg` and `bg` only. -/
def Key.base : Key → Nat
  | .bg => 40
  | _ => 30

theorem Key.exists_mem_all {P : Key → Prop} : (∃ j ∈ Key.all, P j) ↔ ∃ j, P j :=
  ⟨fun ⟨j, _, h⟩ => ⟨j, h⟩, fun ⟨j, h⟩ => ⟨j, by cases j <;> decide, h⟩⟩
theorem Key.isColour_iff (k : Key) : k.isColour = true ↔ k = .fg ∨ k = .bg := by cases k <;> decide

theorem Key.name_inj (a b : Key) : a.name = b.name ↔ a = b := by
  have inv : ∀ k : Key, (Key.all.map fun j => (j.name, j)).lookup k.name = some k := fun k => by cases k <;> decide
  exact ⟨fun h => Option.some.inj (by rw [← inv a, h, inv b]), fun h => by rw [h]⟩
theorem name_ne_style (k : Key) : k.name ≠ "style" := by cases k <;> decide

theorem isKnownKey_iff (s : String) : isKnownKey s = true ↔ ∃ j : Key, j.name = s := by
  simp only [isKnownKey, List.any_eq_true, beq_iff_eq]
  exact Key.exists_mem_all

theorem attKeys_iff (s : String) : attKeys.contains s = true ↔ isKnownKey s = true := by
  rw [isKnownKey_iff, show attKeys = Key.all.map Key.name from rfl, List.contains_iff_mem, List.mem_map]
  exact Key.exists_mem_all

theorem lookup_isSome {β : Type} (l : List (String × β)) (k : String) :
    (l.lookup k).isSome = (l.map Prod.fst).contains k := by
  rw [Bool.eq_iff_iff, List.lookup_isSome_iff, List.contains_iff_mem, List.mem_map]
  exact exists_congr fun p => and_congr_right fun _ => beq_iff_eq.trans eq_comm

theorem style_names_ok : ∀ p ∈ styleNames, p.1 = p.2.name ∧ p.2.isColour = false := by decide

/-- What the proofs use of the colour parts of `TablesWF`: the numbers in `FG_COLORS` / `BG_COLORS` are exactly
    `base .. base+7`. -/
structure ColourTable (table : List (String × Nat)) (base : Nat) : Prop where
  range : ∀ p ∈ table, base ≤ p.2 ∧ p.2 < base + 8
  full : ∀ i : Fin 8, table.any (fun p => p.2 == base + i.val) = true
  two_le : 2 ≤ base   -- no code is 0 or 1, the ints `False` and `True` are

theorem TablesWF.fg (T : TablesWF) : ColourTable Generated.fgColors 30 := ⟨T.1, T.2.1, by decide⟩
theorem TablesWF.bg (T : TablesWF) : ColourTable Generated.bgColors 40 := ⟨T.2.2.1, T.2.2.2.1, by decide⟩

theorem colourIndex_base (base : Int) (c : Fin 8) : colourIndex base (.int (base + c.val)) = some c := by
  have : base ≤ base + ↑c.val ∧ base + ↑c.val < base + 8 := by omega
  simp only [colourIndex]
  rw [dif_pos this]
  congr 1
  apply Fin.ext
  show (base + ↑c.val - base).toNat = c.val
  rw [Int.add_comm, Int.add_sub_cancel, Int.toNat_natCast]

theorem colourIndex_code (base : Nat) (c : Fin 8) :
    colourIndex base (.int ((base + c.val : Nat) : Int)) = some c := by
  rw [Int.natCast_add]; exact colourIndex_base base c

theorem colourIndex_int_some (base i : Int) (c : Fin 8) (h : colourIndex base (.int i) = some c) : i = base + c.val := by
  simp only [colourIndex] at h
  split at h
  · injection h with h; rw [← h]; simp only []; omega
  · cases h

theorem index_of_range {base n : Nat} (h : base ≤ n ∧ n < base + 8) : ∃ c : Fin 8, n = base + c.val :=
  ⟨⟨n - base, by omega⟩, by simp only []; omega⟩

namespace ColourTable
variable {table : List (String × Nat)} {base : Nat} (C : ColourTable table base)
include C

theorem lookup_eq (l : String) : table.lookup l = (colourOfName table base l).map fun c => base + c.val := by
  unfold colourOfName
  cases h : table.lookup l with
  | none => rfl
  | some code =>
    obtain ⟨c, rfl⟩ := index_of_range (C.range _ (lookup_mem h))
    simp only [Option.bind_some, specColour_eq, colourIndex_code, Option.map_some]

theorem any_code (i : Int) : table.any (fun p => (p.2 : Int) == i) = (colourIndex base (.int i)).isSome := by
  rw [Bool.eq_iff_iff, List.any_eq_true, Option.isSome_iff_exists]
  simp only [beq_iff_eq]
  constructor
  · rintro ⟨p, hp, rfl⟩
    obtain ⟨c, hc⟩ := index_of_range (C.range p hp)
    exact ⟨c, by rw [hc]; exact colourIndex_code base c⟩
  · rintro ⟨c, hc⟩
    obtain ⟨p, hp, he⟩ := List.any_eq_true.mp (C.full c)
    exact ⟨p, hp, by rw [colourIndex_int_some _ _ _ hc, beq_iff_eq.mp he, Int.natCast_add]⟩

theorem no_bool (b : Bool) : table.any (fun p => p.2 == b.toNat) = false := by
  rw [Bool.eq_false_iff]
  intro h
  obtain ⟨p, hp, he⟩ := List.any_eq_true.mp h
  have h1 := (C.range p hp).1
  have h2 := C.two_le
  have h3 := Bool.toNat_le b
  rw [beq_iff_eq] at he
  omega

end ColourTable

/-- A `raise ValueError` of `parse_args` stands alone (`raise_err`) or in one branch of a test (`raise_ite`).  With the two,
    whatever the tables hold, each stage before `return kwargs` raises nothing else: `posStep_err`, `posLoop_err`,
    `keyLoop_err`, `colourBlock_err`. -/
theorem raise_err {α : Type} {e : PyErr} (h : (.error .valueError : Except PyErr α) = .error e) : e = .valueError :=
  (Except.error.inj h).symm

theorem raise_ite {α : Type} {c : Prop} [Decidable c] {x y : Except PyErr α} {e : PyErr}
    (hx : x = .error e → e = .valueError) (hy : y = .error e → e = .valueError)
    (h : (if c then x else y) = .error e) : e = .valueError := by
  split at h
  · exact hx h
  · exact hy h

theorem posStep_err (lower : String → String) (kw : Kw) (a : ArgVal) (e : PyErr) :
    posStep lower kw a = .error e → e = .valueError := by
  cases a with
  | str s =>
    simp only [posStep]
    cases Generated.fgColors.lookup (lower s) with
    | some code => exact raise_ite raise_err nofun
    | none =>
      cases (if startsWithOn (lower s) then Generated.bgColors.lookup (lower (strDrop3 s)) else none) with
      | some code => exact raise_ite raise_err nofun
      | none =>
        exact raise_ite (raise_ite raise_err nofun) raise_err
  | _ => exact raise_err

theorem posLoop_err (lower : String → String) (args : List ArgVal) (kw : Kw) (e : PyErr)
    (h : posLoop lower kw args = .error e) : e = .valueError := by
  induction args generalizing kw with
  | nil => cases h
  | cons a rest ih =>
    rw [posLoop] at h
    split at h
    next kw' _ => exact ih kw' h
    next e' hs => exact posStep_err lower kw a e (hs.trans h)

theorem keyLoop_err (kw : Kw) (e : PyErr) (h : keyLoop kw = .error e) : e = .valueError := by
  induction kw with
  | nil => cases h
  | cons p rest ih =>
    rw [keyLoop] at h
    exact raise_ite raise_err (raise_ite raise_err ih) h

theorem colourBlock_err (table : List (String × Nat)) (key : String) (kw : Kw) (e : PyErr) :
    colourBlock table key kw = .error e → e = .valueError := by
  unfold colourBlock
  cases kw.get? key with
  | none => exact nofun
  | some v =>
    cases v with
    | str s =>
      simp only []
      cases table.lookup s with
      | some code => exact raise_ite nofun raise_err
      | none => exact raise_err
    | int i | bool b => exact raise_ite nofun raise_err
    | _ => exact raise_err

namespace ParseArgs

def view (kw : Kw) (k : Key) : Option ArgVal := kw.get? k.name

/-- The value a positional argument naming `k` writes. -/
def newVal (k : Key) : Option (Fin 8) → ArgVal
  | some c => .int ((k.base + c.val : Nat) : Int)
  | none => .bool true
/-- A positional colour needs an empty slot, a positional style an empty one or `True`. -/
def stepOk (cur : Option ArgVal) : Option (Fin 8) → Bool
  | some _ => cur.isNone
  | none => decide (cur.getD (.bool true) = .bool true)

/-- A colour branch of `posStep` (`j` is `fg` or `bg`); `style_tail` is the style branch. -/
theorem colour_step (kw : Kw) (j : Key) (c : Fin 8) :
    (if kw.has j.name = true then (Except.error PyErr.valueError : Except PyErr Kw)
      else .ok (kw.set j.name (.int ((j.base + c.val : Nat) : Int)))) =
    if stepOk (view kw j) (some c) then .ok (kw.set j.name (newVal j (some c))) else .error .valueError := by
  rw [Kw.has_eq]
  show _ = if (kw.get? j.name).isNone = true then _ else _
  cases kw.get? j.name <;> rfl

section tables
variable (T : TablesWF)
include T

theorem isStyleName_eq (l : String) : isStyleName l = (styleNames.lookup l).isSome := by
  unfold isStyleName
  rw [T.2.2.2.2.2, lookup_isSome, lookup_isSome,
    show styleTable.map Prod.fst = styleNames.map Prod.fst from by decide]

theorem styleName_iff (s : String) : isStyleName s = true ↔ ∃ j : Key, j.name = s ∧ j.isColour = false := by
  rw [isStyleName_eq T]
  constructor
  · intro h
    obtain ⟨j, hj⟩ := Option.isSome_iff_exists.mp h
    obtain ⟨h1, h2⟩ := style_names_ok _ (lookup_mem hj)
    exact ⟨j, h1.symm, h2⟩
  · rintro ⟨j, rfl, hj⟩
    have : j ∈ styleNames.map Prod.snd := by revert hj; cases j <;> decide
    obtain ⟨p, hp, rfl⟩ := List.mem_map.mp this
    rw [lookup_isSome, List.contains_iff_mem, ← (style_names_ok p hp).1]
    exact List.mem_map.mpr ⟨p, hp, rfl⟩

/-- The first test of `keyLoop` lets the eight attribute names pass. -/
theorem keyPass_iff (s : String) : (s == "fg" || s == "bg" || isStyleName s) = true ↔ isKnownKey s = true := by
  rw [isKnownKey_iff]
  simp only [Bool.or_eq_true, beq_iff_eq, styleName_iff T]
  constructor
  · rintro ((rfl | rfl) | ⟨j, h, _⟩)
    · exact ⟨.fg, rfl⟩
    · exact ⟨.bg, rfl⟩
    · exact ⟨j, h⟩
  · rintro ⟨j, rfl⟩
    cases hc : j.isColour
    · exact Or.inr ⟨j, rfl, hc⟩
    · rcases (Key.isColour_iff j).mp hc with rfl | rfl
      · exact Or.inl (Or.inl rfl)
      · exact Or.inl (Or.inr rfl)

theorem style_tail (kw : Kw) (l : String) :
    (if isStyleName l = true then
      (if (kw.get? l).getD (.bool true) ≠ .bool true then (Except.error PyErr.valueError : Except PyErr Kw)
       else .ok (kw.set l (.bool true)))
     else .error .valueError)
    = match (styleNames.lookup l).map (fun k => (k, (none : Option (Fin 8)))) with
      | none => .error .valueError
      | some (j, oc) => if stepOk (view kw j) oc then .ok (kw.set j.name (newVal j oc)) else .error .valueError := by
  rw [isStyleName_eq T]
  cases h : styleNames.lookup l with
  | none => rfl
  | some k =>
    obtain rfl : l = k.name := (style_names_ok _ (lookup_mem h)).1
    simp only [Option.isSome_some, if_true, Option.map_some, stepOk, view, newVal]
    by_cases e : (kw.get? k.name).getD (.bool true) = .bool true <;> simp [e]

theorem posStep_spec (lower : String → String) (kw : Kw) (arg : ArgVal) :
    posStep lower kw arg = match posName lower arg with
      | none => .error .valueError
      | some (j, oc) => if stepOk (view kw j) oc then .ok (kw.set j.name (newVal j oc)) else .error .valueError := by
  cases arg with
  | str s =>
    simp only [posStep, posName, onPrefix_eq, afterOn_eq, T.fg.lookup_eq, T.bg.lookup_eq]
    cases colourOfName Generated.fgColors 30 (lower s) with
    | some c => exact colour_step kw .fg c
    | none =>
      simp only [Option.map_none]
      cases startsWithOn (lower s) with
      | true =>
        simp only [if_true]
        cases colourOfName Generated.bgColors 40 (lower (strDrop3 s)) with
        | some c => exact colour_step kw .bg c
        | none => exact style_tail T kw (lower s)
      | false => exact style_tail T kw (lower s)
  | _ => rfl

end tables

theorem mapM_cons_opt {α β : Type} (f : α → Option β) (a : α) (as : List α) :
    (a :: as).mapM f = (f a).bind fun b => (as.mapM f).map (b :: ·) := by
  simp only [List.mapM_cons, bind, pure, Option.map_eq_bind, Function.comp_def]

theorem posName_wf (lower : String → String) (a : ArgVal) (p : Key × Option (Fin 8))
    (h : posName lower a = some p) : p.2.isSome = p.1.isColour := by
  cases a with
  | str s =>
    simp only [posName] at h
    split at h
    · injection h with h; subst h; rfl
    · split at h
      · injection h with h; subst h; rfl
      · cases hl : styleNames.lookup (lower s) with
        | none => rw [hl] at h; cases h
        | some k =>
          rw [hl] at h; injection h with h; subst h
          exact (style_names_ok _ (lookup_mem hl)).2.symm
  | _ => simp [posName] at h

/-- The `do` block that `toAtts` and `denote` share, in their order of keys, so that `toAtts_eq` and `denote_eq` hold
    by unfolding; `c` reads a colour key, `s` a style key. -/
def collect (c : Key → Option (Option (Fin 8))) (s : Key → Option (Option Bool)) : Option Atts := do
  let bg ← c .bg
  let blink ← s .blink
  let bold ← s .bold
  let dark ← s .dark
  let fg ← c .fg
  let invert ← s .invert
  let italic ← s .italic
  let underline ← s .underline
  pure { bg, blink, bold, dark, fg, invert, italic, underline }

section collect
variable {c c' : Key → Option (Option (Fin 8))} {s s' : Key → Option (Option Bool)}

theorem collect_congr (hc : ∀ k, k.isColour = true → c k = c' k) (hs : ∀ k, k.isColour = false → s k = s' k) :
    collect c s = collect c' s' := by
  unfold collect
  rw [hc .bg rfl, hc .fg rfl, hs .blink rfl, hs .bold rfl, hs .dark rfl, hs .invert rfl, hs .italic rfl,
    hs .underline rfl]

theorem collect_none (k : Key) (h : if k.isColour then c k = none else s k = none) : collect c s = none := by
  cases k <;> simp only [Key.isColour, if_true, Bool.false_eq_true, if_false] at h <;>
    simp only [collect, h, Option.bind_eq_bind, Option.bind_none, Option.bind_fun_none]

theorem collect_isSome (hc : ∀ k, k.isColour = true → (c k).isSome) (hs : ∀ k, k.isColour = false → (s k).isSome) :
    (collect c s).isSome := by
  unfold collect
  rw [Option.eq_some_of_isSome (hc .bg rfl), Option.eq_some_of_isSome (hs .blink rfl),
    Option.eq_some_of_isSome (hs .bold rfl), Option.eq_some_of_isSome (hs .dark rfl),
    Option.eq_some_of_isSome (hc .fg rfl), Option.eq_some_of_isSome (hs .invert rfl),
    Option.eq_some_of_isSome (hs .italic rfl), Option.eq_some_of_isSome (hs .underline rfl)]
  rfl

end collect

theorem toAtts_eq (kw : Kw) : toAtts kw = if kw.all (fun p => attKeys.contains p.1) then
    collect (fun k => readColour k.base (view kw k)) (fun k => readFlag (view kw k)) else none := rfl

/-- The positional arguments as `posName` reads them: the attribute each names and, for a colour, which. -/
abbrev Named := List (Key × Option (Fin 8))

/-- What `denote` makes of colour attribute `k`, from its dict slot and the positional arguments naming it. -/
def slotC (kw : Kw) (named : Named) (k : Key) : Option (Option (Fin 8)) :=
  resolveColour k.table k.base (view kw k) (named.filterMap fun p => if p.1 = k then p.2 else none)
/-- The same for a style; of `named` only whether some argument names `k` matters. -/
def slotS (kw : Kw) (named : Named) (k : Key) : Option (Option Bool) :=
  resolveStyle (view kw k) (named.any fun p => p.1 = k)

/-- `denote` for a dict without `style` and positional arguments already named. -/
def den (kw : Kw) (named : Named) : Option Atts :=
  if kw.all (fun p => isKnownKey p.1) then collect (slotC kw named) (slotS kw named) else none

theorem denote_eq (lower : String → String) (args : List ArgVal) (kw : Kw) :
    denote lower args kw =
      ((args ++ (kw.get? "style").toList).mapM (posName lower)).bind (den (kw.del "style")) := by
  cases h : (args ++ (kw.get? "style").toList).mapM (posName lower) <;> simp only [denote, h] <;> rfl

theorem view_set (kw : Kw) (j k : Key) (v : ArgVal) :
    view (kw.set j.name v) k = if k = j then some v else view kw k := by
  simp only [view, Kw.get?_set, Key.name_inj]

/-- One more positional colour: only on an empty slot, and then it means what its number means in the slot. -/
theorem resolveColour_cons (table : List (String × Nat)) (k : Key) (cur : Option ArgVal) (c : Fin 8)
    (pos : List (Fin 8)) :
    resolveColour table k.base cur (c :: pos) =
      if stepOk cur (some c) then resolveColour table k.base (some (newVal k (some c))) pos else none := by
  cases cur with
  | some v => rfl
  | none => cases pos <;> simp [resolveColour, kwColour, newVal, stepOk, specColour_eq, colourIndex_base]

/-- A style named positionally: only on a slot that is empty or `True`, and then, however often it is named again, it
    means what `True` means in the slot. -/
theorem resolveStyle_true (k : Key) (cur : Option ArgVal) (b : Bool) :
    resolveStyle cur true = if stepOk cur none then resolveStyle (some (newVal k none)) b else none := by
  cases b <;> cases cur with
  | none => rfl
  | some v =>
    cases v with
    | bool b' => cases b' <;> rfl
    | _ => rfl

theorem resolveStyle_false (v : Option ArgVal) : resolveStyle v false = readFlag v := by
  cases v with
  | none => rfl
  | some v => cases v <;> rfl

theorem slotC_fg (kw : Kw) : slotC kw [] .fg = resolveColour Generated.fgColors (30 : Nat) (kw.get? "fg") [] := rfl
theorem slotC_bg (kw : Kw) : slotC kw [] .bg = resolveColour Generated.bgColors (40 : Nat) (kw.get? "bg") [] := rfl
theorem slotS_nil (kw : Kw) (k : Key) : slotS kw [] k = readFlag (view kw k) := resolveStyle_false _

/-- The slot of `k` with the argument `(j, oc)` in front, against the slot once the argument has gone into the dict:
    the same, unless the argument names `k` itself and is rejected. -/
theorem slotC_cons (kw : Kw) (j : Key) (oc : Option (Fin 8)) (rest : Named) (hwf : oc.isSome = j.isColour) (k : Key)
    (hk : k.isColour = true) :
    slotC kw ((j, oc) :: rest) k =
      if k = j then (if stepOk (view kw j) oc then slotC (kw.set j.name (newVal j oc)) rest k else none)
      else slotC (kw.set j.name (newVal j oc)) rest k := by
  by_cases e : k = j
  · subst e
    rw [hk] at hwf
    obtain ⟨c, rfl⟩ := Option.isSome_iff_exists.mp hwf
    simp only [slotC, view_set, List.filterMap_cons, if_true, resolveColour_cons]
  · simp only [slotC, view_set, List.filterMap_cons, if_neg e, if_neg fun h : j = k => e h.symm]

theorem slotS_cons (kw : Kw) (j : Key) (oc : Option (Fin 8)) (rest : Named) (hwf : oc.isSome = j.isColour) (k : Key)
    (hk : k.isColour = false) :
    slotS kw ((j, oc) :: rest) k =
      if k = j then (if stepOk (view kw j) oc then slotS (kw.set j.name (newVal j oc)) rest k else none)
      else slotS (kw.set j.name (newVal j oc)) rest k := by
  by_cases e : k = j
  · subst e
    rw [hk] at hwf
    obtain rfl : oc = none := Option.not_isSome_iff_eq_none.mp (ne_true_of_eq_false hwf)
    simp only [slotS, view_set, List.any_cons, if_true, decide_true, Bool.true_or]
    exact resolveStyle_true k _ _
  · simp only [slotS, view_set, List.any_cons, if_neg e, decide_eq_false fun h : j = k => e h.symm, Bool.false_or]

/-- An accepted argument means the same in the dict as in front of it; the attribute a rejected one names does not resolve. -/
theorem den_cons (kw : Kw) (j : Key) (oc : Option (Fin 8)) (rest : Named) (hwf : oc.isSome = j.isColour) :
    den kw ((j, oc) :: rest) = if stepOk (view kw j) oc then den (kw.set j.name (newVal j oc)) rest else none := by
  unfold den
  by_cases hs : stepOk (view kw j) oc = true
  · rw [if_pos hs, Kw.all_set _ _ _ isKnownKey ((isKnownKey_iff _).mpr ⟨j, rfl⟩)]
    congr 1
    refine collect_congr (fun k hk => ?_) (fun k hk => ?_)
    · rw [slotC_cons kw j oc rest hwf k hk, if_pos hs, ite_self]
    · rw [slotS_cons kw j oc rest hwf k hk, if_pos hs, ite_self]
  · rw [if_neg hs, collect_none j, ite_self]
    cases hc : j.isColour
    · rw [if_neg Bool.false_ne_true, slotS_cons kw j oc rest hwf j hc, if_pos rfl, if_neg hs]
    · rw [if_pos rfl, slotC_cons kw j oc rest hwf j hc, if_pos rfl, if_neg hs]

theorem readFlag_isSome (v : ArgVal) : (readFlag (some v)).isSome = v.isBool := by cases v <;> rfl

/-- The block accepts exactly the slot values that resolve (with no positional colour), and leaves the colour's number. -/
theorem colourBlock_spec {table : List (String × Nat)} {base : Nat} (C : ColourTable table base) (key : String)
    (kw : Kw) :
    (resolveColour table base (kw.get? key) [] = none ∧ colourBlock table key kw = .error .valueError) ∨
    ∃ kw' r, resolveColour table base (kw.get? key) [] = some r ∧ colourBlock table key kw = .ok kw' ∧
      readColour base (kw'.get? key) = some r ∧ (∀ k', k' ≠ key → kw'.get? k' = kw.get? k') ∧
      kw'.map Prod.fst = kw.map Prod.fst := by
  unfold colourBlock
  cases hg : kw.get? key with
  | none => exact Or.inr ⟨kw, none, rfl, rfl, by rw [hg]; rfl, fun _ _ => rfl, rfl⟩
  | some v =>
    cases v with
    | int i =>
      simp only [resolveColour, kwColour, specColour_eq, C.any_code]
      cases hc : colourIndex base (.int i) with
      | none => exact Or.inl ⟨rfl, rfl⟩
      | some c => exact Or.inr ⟨kw, some c, rfl, rfl, by rw [hg]; simp [readColour, hc], fun _ _ => rfl, rfl⟩
    | str s =>
      simp only [resolveColour, kwColour, C.lookup_eq]
      cases colourOfName table base s with
      | none => exact Or.inl ⟨rfl, rfl⟩
      | some c =>
        have hc := colourIndex_code base c
        refine Or.inr ⟨kw.set key (.int ((base + c.val : Nat) : Int)), some c, rfl, ?_, ?_, fun k' hk => ?_, ?_⟩
        · simp only [Option.map_some, C.any_code, hc, Option.isSome_some, if_true]
        · rw [Kw.get?_set, if_pos rfl]; simp only [readColour, hc, Option.map_some]
        · rw [Kw.get?_set, if_neg hk]
        · rw [Kw.keys_set, Kw.has_eq, hg]
          rfl
    | bool b => exact Or.inl ⟨rfl, by simp [C.no_bool]⟩
    | none | float | other => exact Or.inl ⟨rfl, rfl⟩

section tables
variable (T : TablesWF)
include T

theorem keyLoop_ok_iff (kw : Kw) : keyLoop kw = .ok () ↔
    ∀ p ∈ kw, isKnownKey p.1 = true ∧ (isStyleName p.1 = true → p.2.isBool = true) := by
  induction kw with
  | nil => exact ⟨fun _ _ h => (nomatch h), fun _ => rfl⟩
  | cons p rest ih =>
    rw [List.forall_mem_cons, ← ih, ← keyPass_iff T, keyLoop]
    cases p.1 == "fg" || p.1 == "bg" <;> cases isStyleName p.1 <;> cases p.2.isBool <;> simp

/-- Needs no distinct keys: after the key loop every style entry is a bool and each colour block leaves its colour's
    number, so `toAtts` cannot fail. -/
theorem parseTail_of_keyLoop (kw : Kw) (hkl : keyLoop kw = .ok ()) :
    parseTail kw = match den kw [] with
      | some a => .ok a
      | none => .error .valueError := by
  have hkl' := (keyLoop_ok_iff T kw).mp hkl
  have hflag : ∀ j : Key, j.isColour = false → (slotS kw [] j).isSome := by
    intro j hj
    rw [slotS_nil]
    cases hv : view kw j with
    | none => rfl
    | some v =>
      rw [readFlag_isSome]
      exact (hkl' _ (Kw.mem_of_get? kw _ _ hv)).2 ((styleName_iff T _).mpr ⟨j, rfl, hj⟩)
  rw [den, if_pos (List.all_eq_true.mpr fun p hp => (hkl' p hp).1)]
  simp only [parseTail, hkl]
  have hfgB := colourBlock_spec T.fg "fg" kw
  rw [← slotC_fg] at hfgB
  rcases hfgB with ⟨hp, he⟩ | ⟨kw2, rfg, hp, he, hr, hsame, hkeys⟩
  · rw [he, collect_none .fg (by exact hp)]
  · have hbgB := colourBlock_spec T.bg "bg" kw2
    rw [hsame "bg" (by decide), ← slotC_bg] at hbgB
    rcases hbgB with ⟨hp2, he2⟩ | ⟨kw3, rbg, hp2, he2, hr2, hsame2, hkeys2⟩
    · simp only [he, he2]
      rw [collect_none .bg (by exact hp2)]
    · simp only [he, he2]
      have hall : kw3.all (fun p => attKeys.contains p.1) = true := by
        rw [Kw.all_keys, hkeys2, hkeys, ← Kw.all_keys]
        exact List.all_eq_true.mpr fun p hp => (attKeys_iff _).mpr (hkl' p hp).1
      -- `kw3` differs from `kw` at `fg` and `bg` only, and there it holds what the blocks accepted
      have hbg : readColour (40 : Nat) (kw3.get? "bg") = slotC kw [] .bg := by
        rw [hr2, hp2]
      have hfg : readColour (30 : Nat) (kw3.get? "fg") = slotC kw [] .fg := by
        rw [hsame2 "fg" (by decide), hr, hp]
      have e : toAtts kw3 = collect (slotC kw []) (slotS kw []) := by
        rw [toAtts_eq, if_pos hall]
        refine collect_congr (fun k hk => ?_) (fun k hk => ?_)
        · rcases (Key.isColour_iff k).mp hk with rfl | rfl
          · exact hfg
          · exact hbg
        · have nbg : k.name ≠ "bg" := fun e => by rw [(Key.name_inj k .bg).mp e] at hk; cases hk
          have nfg : k.name ≠ "fg" := fun e => by rw [(Key.name_inj k .fg).mp e] at hk; cases hk
          rw [slotS_nil, view, view, hsame2 _ nbg, hsame _ nfg]
      have hcol : ∀ k : Key, k.isColour = true → (slotC kw [] k).isSome := fun k hk => by
        rcases (Key.isColour_iff k).mp hk with rfl | rfl
        · rw [hp]; rfl
        · rw [hp2]; rfl
      obtain ⟨a, ha⟩ := Option.isSome_iff_exists.mp (collect_isSome hcol hflag)
      rw [e, ha]

theorem parseTail_eq (kw : Kw) (hnd : (kw.map Prod.fst).Nodup) :
    parseTail kw = match den kw [] with
      | some a => .ok a
      | none => .error .valueError := by
  cases hkl : keyLoop kw with
  | ok u => exact parseTail_of_keyLoop T kw hkl
  | error e =>
    simp only [parseTail, hkl, keyLoop_err kw e hkl]
    suffices h : den kw [] = none by rw [h]
    unfold den
    split
    next hk =>
      -- all keys are known, so some style keyword carries a non-bool, and that slot does not resolve
      have hbad : ¬ ∀ p ∈ kw, isKnownKey p.1 = true ∧ (isStyleName p.1 = true → p.2.isBool = true) :=
        fun h => by rw [(keyLoop_ok_iff T kw).mpr h] at hkl; cases hkl
      obtain ⟨p, hbad⟩ := Classical.not_forall.mp hbad
      obtain ⟨hp, hbad⟩ := Classical.not_imp.mp hbad
      obtain ⟨hs, hb⟩ := Classical.not_imp.mp fun h => hbad ⟨List.all_eq_true.mp hk p hp, h⟩
      obtain ⟨j, hj, hjc⟩ := (styleName_iff T _).mp hs
      have hv : view kw j = some p.2 := (Kw.mem_iff_get? kw hnd _ _).mp (by rw [hj]; exact hp)
      apply collect_none j
      rw [hjc, if_neg (by decide)]
      rw [slotS_nil, hv, ← Option.not_isSome_iff_eq_none, readFlag_isSome]
      exact hb
    next => rfl

theorem posLoop_den (lower : String → String) (args : List ArgVal) : ∀ kw : Kw, (kw.map Prod.fst).Nodup →
    (match posLoop lower kw args with
      | .error e => (.error e : Except PyErr Atts)
      | .ok k => parseTail k) =
    match (args.mapM (posName lower)).bind (den kw) with
      | some a => .ok a
      | none => .error .valueError := by
  induction args with
  | nil => intro kw hnd; exact parseTail_eq T kw hnd
  | cons a rest ih =>
    intro kw hnd
    rw [mapM_cons_opt]
    simp only [posLoop, posStep_spec T]
    cases hn : posName lower a with
    | none => rfl
    | some p =>
      obtain ⟨j, oc⟩ := p
      rw [Option.bind_some, Option.bind_map]
      simp only [Function.comp_def, den_cons kw j oc _ (posName_wf lower a _ hn)]
      by_cases hs : stepOk (view kw j) oc = true
      · simp only [hs, if_true]
        exact ih _ (Kw.nodup_set _ _ _ hnd)
      · simp only [hs, Bool.false_eq_true, if_false, Option.bind_fun_none]

theorem parseTail_err (kw : Kw) (e : PyErr) (h : parseTail kw = .error e) : e = .valueError := by
  cases hkl : keyLoop kw with
  | error e' =>
    simp only [parseTail, hkl] at h
    injection h with h
    subst h
    exact keyLoop_err kw _ hkl
  | ok u =>
    rw [parseTail_of_keyLoop T kw hkl] at h
    split at h
    · cases h
    · injection h with h; exact h.symm

end tables

end ParseArgs
open ParseArgs

theorem parseArgs_norm (lower : String → String) (args : List ArgVal) (kw : Kw) :
    parseArgs lower args kw =
      match posLoop lower (kw.del "style") (args ++ (kw.get? "style").toList) with
      | .error e => .error e
      | .ok k => parseTail k := by
  unfold parseArgs
  cases h : kw.get? "style" with
  | some v => rfl
  | none =>
    rw [Kw.del_none kw "style" h]
    simp only [Option.toList_none, List.append_nil]
    cases posLoop lower kw args <;> rfl

theorem parseArgs_fmtfuncKw (lower : String → String) (bound : String) (args : List ArgVal) (kw : Kw)
    (hb : (bound == "") = false) (hs : kw.has "style" = false) :
    parseArgs lower args (fmtfuncKw bound kw) = parseArgs lower (args ++ [.str bound]) kw := by
  have hg : kw.get? "style" = none := by rw [Kw.has_eq] at hs; simpa using hs
  simp only [fmtfuncKw, hb, hs, Bool.or_self, Bool.false_eq_true, if_false]
  -- on both sides the positional loop runs over `args ++ [bound]` and the dict `kw` without `style`
  rw [parseArgs_norm, parseArgs_norm lower (args ++ _), hg, Kw.get?_cons, if_pos rfl, Kw.del_cons, if_pos rfl]
  simp

theorem parseArgs_eq_denote (T : TablesWF) (lower : String → String) (args : List ArgVal) (kw : Kw)
    (hnd : (kw.map Prod.fst).Nodup) :
    parseArgs lower args kw = match denote lower args kw with
      | some a => .ok a
      | none => .error .valueError := by
  rw [parseArgs_norm, denote_eq]
  exact posLoop_den T lower _ _ (Kw.nodup_del kw "style" hnd)

theorem parseArgs_error (T : TablesWF) (lower : String → String) (args : List ArgVal) (kw : Kw) (e : PyErr)
    (h : parseArgs lower args kw = .error e) : e = .valueError := by
  rw [parseArgs_norm] at h
  split at h
  next _ hp => exact posLoop_err lower _ _ e (Except.error.inj h ▸ hp)
  next k _ => exact parseTail_err T k e h

end Curtsies
