/-
  The parser model (Model/EscParse.lean) only ever deletes complete escape sequences (`IsSeq`): from_str returns on every
  input and its text is the input with some of them cut out (`fromStr_strips`: parse path, remove_ansi fallback and the
  no-"ESC[" shortcut alike). Against the independent ECMA-48 scanner of Spec/EscScan.lean every deleted character is a
  marked one (`Strips.aligned`), because such a sequence, met in ANY scanner state, is wholly claimed (`aligned_seq`).
-/
import Curtsies.Model.EscParse
import Curtsies.Spec.EscScan
namespace Curtsies
open Spec

/-- `t` is `s` with some escape sequences deleted. -/
inductive Strips : Text → Text → Prop
  | done (s : Text) : Strips s s
  | step (f q r t : Text) : IsSeq q → Strips r t → Strips (f ++ q ++ r) (f ++ t)

theorem Strips.cons (c : Char) {s t : Text} (h : Strips s t) : Strips (c :: s) (c :: t) := by
  cases h with
  | done => exact .done _
  | step f q r t hq hr => exact .step (c :: f) q r t hq hr

theorem Strips.sublist {s t : Text} (h : Strips s t) : t.Sublist s := by
  induction h with
  | done => exact List.Sublist.refl _
  | step f q r t _ _ ih =>
    rw [List.append_assoc]
    exact List.Sublist.append (List.Sublist.refl f) (List.sublist_append_of_sublist_right ih)

/-! ### `parse`: each turn of the loop cuts one complete sequence out of `s` (`peel_cases`); it raises ValueError only -/

theorem peel_nil (md : Nat) : peel md [] = .ok ([], none, []) := rfl

theorem parseLoop_nil (md : Nat) : parseLoop md [] = .ok [] := by
  rw [parseLoop]
  split
  · rename_i e hp; rw [peel_nil] at hp; cases hp
  · rename_i r hp
    rw [peel_nil] at hp; cases hp
    simp [tokenItems]

/-- The loop without its `break`: on an empty `rest` one more iteration appends nothing (`parseLoop_nil`). -/
theorem parseLoop_eq (md : Nat) (s : Text) : parseLoop md s =
    match peel md s with
    | .error e => .error e
    | .ok r =>
      match tokenItems r.2.1 with
      | .error e => .error e
      | .ok toks =>
        match parseLoop md r.2.2 with
        | .error e => .error e
        | .ok more => .ok ((if r.1.isEmpty then [] else [.str r.1]) ++ toks ++ more) := by
  conv => lhs; rw [parseLoop]
  split
  · rename_i e hp; rw [hp]
  · rename_i r hp
    rw [hp]
    simp only []
    cases hT : tokenItems r.2.1 with
    | error e => rfl
    | ok toks =>
      by_cases h : r.2.2 = []
      · simp [h, parseLoop_nil]
      · simp only [dif_neg h]
        cases parseLoop md r.2.2 <;> rfl

/-- `cur_fmt` after the dicts `l` -/
def applyUpds (l : List Upd) (cur : Atts) : Atts := l.foldl (fun a u => applyUpd u a) cur

theorem fromStrLoop_upds (l : List Upd) (cur : Atts) (more : List Item) :
    fromStrLoop cur (l.map .upd ++ more) = fromStrLoop (applyUpds l cur) more := by
  induction l generalizing cur with
  | nil => rfl
  | cons u l ih => simp only [List.map_cons, List.cons_append, fromStrLoop]; exact ih _

theorem cells_front (cur : Atts) (f : Text) (ys : List Item) :
    cells (fromStrLoop cur ((if f.isEmpty then [] else [Item.str f]) ++ ys)) =
      f.map (fun ch => (ch, cur)) ++ cells (fromStrLoop cur ys) := by
  cases f with
  | nil => simp
  | cons c f => simp [fromStrLoop, Chunk.cells]

theorem text_front (cur : Atts) (f : Text) (ys : List Item) :
    text (fromStrLoop cur ((if f.isEmpty then [] else [Item.str f]) ++ ys)) = f ++ text (fromStrLoop cur ys) := by
  rw [text_eq_cells, text_eq_cells, cells_front, List.map_append, List.map_map]
  exact congrArg (· ++ _) (List.map_id f)

theorem tokenItems_upds {tok : Option Token} {l : List Item} (h : tokenItems tok = .ok l) :
    ∃ us : List Upd, l = us.map .upd := by
  unfold tokenItems at h
  split at h
  · cases h; exact ⟨[], rfl⟩
  · split at h
    · cases h
    · cases h; exact ⟨[], rfl⟩
    · cases h; exact ⟨_, rfl⟩

theorem intsOf_error {md : Nat} {l : List Text} {e : PyErr} (h : intsOf md l = .error e) : e = .valueError := by
  induction l with
  | nil => cases h
  | cons p ps ih =>
    unfold intsOf at h
    split at h
    · rename_i e' he
      cases h
      unfold intOf at he
      split at he
      · cases he; rfl
      · cases he
    · split at h
      · rename_i e' he; cases h; exact ih he
      · cases h

theorem postNumbers_error {md : Nat} {n : Text} {e : PyErr} (h : postNumbers md n = .error e) : e = .valueError := by
  unfold postNumbers at h
  simp only [] at h
  split at h
  · split at h
    · rename_i e' he; cases h; exact intsOf_error he
    · cases h
  · cases h

theorem peel_cases (md : Nat) (s : Text) :
    peel md s = .error .valueError ∨
    (∃ f t r, peel md s = .ok (f, some t, r) ∧ s = f ++ t.seq ++ r ∧ t.Good) ∨
    peel md s = .ok (s, none, []) := by
  unfold peel
  rcases peelMatch_cases s with ⟨f, t, r, hp, hs, hg⟩ | hp
  · rw [hp]
    rcases hn : t.numbers with _ | (nums | l)
    · simp only [postToken, hn]
      exact .inr (.inl ⟨f, t, r, rfl, hs, hg⟩)
    · simp only [postToken, hn]
      cases hN : postNumbers md nums with
      | error e => cases postNumbers_error hN; exact .inl rfl
      | ok v => exact .inr (.inl ⟨f, _, r, rfl, hs, hg.1, .inl rfl⟩)
    · simp only [postToken, hn]
      exact .inr (.inl ⟨f, t, r, rfl, hs, hg⟩)
  · rw [hp]
    exact .inr (.inr rfl)

theorem tokenType_error {t : Token} (ht : t.Good) {e : PyErr} (h : tokenType t = .error e) :
    e = .valueError := by
  unfold tokenType at h
  by_cases hc : t.command = 'm'
  · rw [if_pos hc] at h
    cases hn : t.numbers with
    | none =>
      -- the KeyError cannot arise: a token without `numbers` is an m2 match, whose command is not 'm'
      rcases ht.2 with h1 | h1
      · rw [hn] at h1; cases h1
      · rw [hc] at h1; exact absurd h1 (by decide)
    | some nums =>
      rw [hn] at h
      simp only [] at h
      split at h
      · cases h; rfl
      · cases h
  · rw [if_neg hc] at h
    split at h <;> cases h

theorem tokenItems_error {t : Token} (ht : t.Good) {e : PyErr} (h : tokenItems (some t) = .error e) :
    e = .valueError := by
  simp only [tokenItems] at h
  cases hT : tokenType t with
  | error e' =>
    rw [hT] at h
    cases h
    exact tokenType_error ht hT
  | ok v => rw [hT] at h; cases v <;> cases h

theorem parseLoop_strips (md : Nat) (s : Text) :
    match parseLoop md s with
    | .ok its => ∀ cur, Strips s (text (fromStrLoop cur its))
    | .error e => e = .valueError := by
  induction hn : s.length using Nat.strongRecOn generalizing s with
  | ind n ih =>
    rw [parseLoop_eq]
    rcases peel_cases md s with hp | ⟨f, t, r, hp, hs', hg⟩ | hp
    · simp only [hp]
    · rw [hp]
      simp only []
      cases hT : tokenItems (some t) with
      | error e => exact tokenItems_error hg hT
      | ok toks =>
        have hr : r.length < n := by
          have := List.length_pos_iff.mpr hg.1.ne_nil
          rw [← hn, hs', List.length_append, List.length_append]
          omega
        have ih := ih r.length hr r rfl
        cases hP : parseLoop md r with
        | error e => rw [hP] at ih; exact ih
        | ok more =>
          rw [hP] at ih
          intro cur
          obtain ⟨us, rfl⟩ := tokenItems_upds hT
          rw [List.append_assoc, text_front, fromStrLoop_upds]
          conv => lhs; rw [hs']
          exact .step f t.seq r _ hg.1 (ih _)
    · rw [hp]
      simp only [tokenItems, parseLoop_nil]
      intro cur
      rw [List.append_nil, text_front]
      simpa [fromStrLoop, text] using Strips.done s

theorem parse_error {md : Nat} {s : Text} {e : PyErr} (h : parse md s = .error e) : e = .valueError := by
  have := parseLoop_strips md s
  rw [show parseLoop md s = .error e from h] at this
  exact this

/-! ### `remove_ansi`, the fallback on ValueError: a regex match at the current position is an `IsSeq`, skipped whole -/

/-- `csi` is one of the two introducers: `hcsi` is `IsSeq.csi7` or `IsSeq.csi8`. -/
theorem ansiBody_some {csi r : Text} {n : Nat}
    (hcsi : ∀ ps is c, (∀ x ∈ ps, isParam x = true) → (∀ x ∈ is, isIntermed x = true) → isFinal c = true →
      IsSeq (csi ++ ps ++ is ++ [c]))
    (h : ansiBody csi.length r = some n) : ∃ q rest, csi ++ r = q ++ rest ∧ q.length = n ∧ IsSeq q := by
  unfold ansiBody at h
  simp only [] at h
  split at h
  · rename_i cmd rest hd
    split at h
    · rename_i hf
      cases h
      refine ⟨_, rest, ?_, ?_, hcsi (r.takeWhile isParam) ((r.dropWhile isParam).takeWhile isIntermed) cmd
        (List.all_eq_true.mp List.all_takeWhile) (List.all_eq_true.mp List.all_takeWhile) hf⟩
      · have h2 := List.takeWhile_append_dropWhile (p := isIntermed) (l := r.dropWhile isParam)
        rw [hd] at h2
        conv => lhs; rw [← List.takeWhile_append_dropWhile (p := isParam) (l := r), ← h2]
        simp
      · simp only [List.length_append, List.length_cons, List.length_nil]
    · cases h
  · cases h

theorem ansiLen_some {s : Text} {n : Nat} (h : ansiLen s = some n) :
    ∃ q rest, s = q ++ rest ∧ q.length = n ∧ IsSeq q := by
  unfold ansiLen at h
  split at h
  · cases h
  · split at h
    · rename_i hc
      subst hc
      exact ansiBody_some (csi := [CSI8]) .csi8 h
    · split at h
      · rename_i hc
        split at h
        · split at h
          · rename_i hc2
            subst hc hc2
            exact ansiBody_some (csi := [ESC, '[']) .csi7 h
          · cases h
        · cases h
      · cases h

theorem removeAnsiAux_skip (k : Nat) (l : Text) : removeAnsiAux k l = removeAnsiAux 0 (l.drop k) := by
  induction l generalizing k with
  | nil => cases k <;> simp [removeAnsiAux]
  | cons c r ih =>
    cases k with
    | zero => rfl
    | succ k => simp only [removeAnsiAux, List.drop_succ_cons]; exact ih k

theorem removeAnsiAux_match {q rest : Text} (hq : q ≠ []) (h : ansiLen (q ++ rest) = some q.length) :
    removeAnsiAux 0 (q ++ rest) = removeAnsiAux 0 rest := by
  cases q with
  | nil => exact absurd rfl hq
  | cons c q =>
    rw [List.cons_append] at h ⊢
    rw [removeAnsiAux, h]
    simp only []
    rw [removeAnsiAux_skip]
    simp only [List.length_cons, Nat.add_sub_cancel, List.drop_left]

theorem removeAnsiAux_strips (s : Text) : Strips s (removeAnsiAux 0 s) := by
  induction hn : s.length using Nat.strongRecOn generalizing s with
  | ind n ih =>
    cases s with
    | nil => exact .done _
    | cons c r =>
      cases hA : ansiLen (c :: r) with
      | none =>
        rw [removeAnsiAux, hA]
        exact (ih r.length (hn ▸ Nat.lt_succ_self _) r rfl).cons c
      | some m =>
        obtain ⟨q, rest, hs', rfl, hq⟩ := ansiLen_some hA
        rw [hs'] at hA hn ⊢
        rw [removeAnsiAux_match hq.ne_nil hA]
        have := List.length_pos_iff.mpr hq.ne_nil
        rw [List.length_append] at hn
        simpa using Strips.step [] q rest _ hq (ih rest.length (by omega) rest rfl)

theorem fromStr_strips (md : Nat) (s : Text) : ∃ f, fromStr md s = .ok f ∧ Strips s (text f) := by
  unfold fromStr
  split
  · have hp := parseLoop_strips md s
    cases hP : parse md s with
    | ok items =>
      rw [show parseLoop md s = .ok items from hP] at hp
      exact ⟨_, rfl, hp {}⟩
    | error e =>
      cases parse_error hP
      exact ⟨_, rfl, by simpa [text, removeAnsi] using removeAnsiAux_strips s⟩
  · exact ⟨_, rfl, by simpa [text] using Strips.done s⟩

/-! ### against the scanner of Spec/EscScan.lean -/

theorem inRange_mono {a b a' b' : Nat} {c : Char} (h : inRange a b c = true) (ha : a' ≤ a) (hb : b ≤ b') :
    inRange a' b' c = true := by
  simp only [inRange, Bool.and_eq_true, decide_eq_true_eq] at *
  omega

theorem inRange_disj {a b a' b' : Nat} {c : Char} (h : inRange a b c = true) (hd : b < a' ∨ b' < a) :
    inRange a' b' c = false := by
  simp only [inRange, Bool.and_eq_true, decide_eq_true_eq, Bool.and_eq_false_iff, decide_eq_false_iff_not] at *
  omega

theorem scan_esc (st : ScanSt) : scanStep st ESC = (true, .esc) := by
  cases st <;> decide
theorem scan_csi8 (st : ScanSt) : scanStep st CSI8 = (true, .csiParam) := by
  cases st <;> decide

-- The model's character classes unfold to the scanner's `inRange lo hi`: `isFinal c = true` serves as `inRange 0x40 0x7e c = true`.
theorem scan_param {c : Char} (h : isParam c = true) : scanStep .csiParam c = (true, .csiParam) := by
  simp only [scanStep, show inRange 0x30 0x3f c = true from h, if_true]

theorem scan_inter {st : ScanSt} (hst : st = .csiParam ∨ st = .csiInter) {c : Char} (h : isIntermed c = true) :
    scanStep st c = (true, .csiInter) := by
  have h1 : inRange 0x30 0x3f c = false := inRange_disj h (by decide)
  rcases hst with rfl | rfl <;> simp [scanStep, h1, show inRange 0x20 0x2f c = true from h]

theorem scan_final {st : ScanSt} (hst : st = .csiParam ∨ st = .csiInter) {c : Char} (h : isFinal c = true) :
    scanStep st c = (true, .ground) := by
  have h1 : inRange 0x30 0x3f c = false := inRange_disj h (by decide)
  have h2 : inRange 0x20 0x2f c = false := inRange_disj h (by decide)
  rcases hst with rfl | rfl <;> simp [scanStep, h1, h2, show inRange 0x40 0x7e c = true from h]

theorem scan_fe {c : Char} (h : isFe c = true) (hb : c ≠ '[') : scanStep .esc c = (true, .ground) := by
  have h2 : inRange 0x20 0x2f c = false := inRange_disj h (by decide)
  have h3 : inRange 0x30 0x7e c = true := inRange_mono h (by decide) (by decide)
  simp [scanStep, hb, h2, h3]

theorem aligned_self (st : ScanSt) (s : Text) : Aligned (marksFrom st s) s s := by
  induction s generalizing st with
  | nil => exact .nil
  | cons c s ih => exact .keep _ c (ih _)

theorem aligned_front {x t : Text} (h : ∀ st, Aligned (marksFrom st x) x t) (f : Text) (st : ScanSt) :
    Aligned (marksFrom st (f ++ x)) (f ++ x) (f ++ t) := by
  induction f generalizing st with
  | nil => exact h st
  | cons c f ih => exact .keep _ c (ih _)

theorem aligned_params {ps r t : Text} (hp : ∀ x ∈ ps, isParam x = true) (h : Aligned (marksFrom .csiParam r) r t) :
    Aligned (marksFrom .csiParam (ps ++ r)) (ps ++ r) t := by
  induction ps with
  | nil => exact h
  | cons c ps ih =>
    rw [List.forall_mem_cons] at hp
    simp only [List.cons_append, marksFrom, scan_param hp.1]
    exact .drop c (ih hp.2)

theorem aligned_inter {st : ScanSt} (hst : st = .csiParam ∨ st = .csiInter) {is r t : Text} {c : Char}
    (hi : ∀ x ∈ is, isIntermed x = true) (hc : isFinal c = true) (h : Aligned (marksFrom .ground r) r t) :
    Aligned (marksFrom st (is ++ c :: r)) (is ++ c :: r) t := by
  induction is generalizing st with
  | nil =>
    simp only [List.nil_append, marksFrom, scan_final hst hc]
    exact .drop c h
  | cons i is ih =>
    rw [List.forall_mem_cons] at hi
    simp only [List.cons_append, marksFrom, scan_inter hst hi.1]
    exact .drop i (ih (.inr rfl) hi.2)

theorem aligned_seq {q r t : Text} (hq : IsSeq q) (h : ∀ st, Aligned (marksFrom st r) r t) (st : ScanSt) :
    Aligned (marksFrom st (q ++ r)) (q ++ r) t := by
  cases hq with
  | csi7 ps is c hp hi hc =>
    simp only [List.cons_append, List.nil_append, List.append_assoc, marksFrom, scan_esc]
    refine .drop _ (.drop _ ?_)
    rw [show (scanStep .esc '[').2 = .csiParam from rfl]
    exact aligned_params hp (aligned_inter (.inl rfl) hi hc (h _))
  | csi8 ps is c hp hi hc =>
    simp only [List.cons_append, List.nil_append, List.append_assoc, marksFrom, scan_csi8]
    exact .drop _ (aligned_params hp (aligned_inter (.inl rfl) hi hc (h _)))
  | esc2 c hc =>
    simp only [List.cons_append, List.nil_append, marksFrom, scan_esc]
    refine .drop _ ?_
    by_cases hb : c = '['
    · -- the parser may delete `ESC [` alone (an m2 match); the scanner goes on in `csiParam`: hence `h` in every state
      subst hb; exact .drop _ (h _)
    · rw [scan_fe hc hb]; exact .drop _ (h _)

theorem Strips.aligned {s t : Text} (h : Strips s t) (st : ScanSt) : Aligned (marksFrom st s) s t := by
  induction h generalizing st with
  | done s => exact aligned_self st s
  | step f q r t hq _ ih =>
    rw [List.append_assoc]
    exact aligned_front (aligned_seq hq ih) f st

theorem Aligned.append {m1 m2 : List Bool} {s1 s2 t1 t2 : Text} (h1 : Aligned m1 s1 t1) (h2 : Aligned m2 s2 t2) :
    Aligned (m1 ++ m2) (s1 ++ s2) (t1 ++ t2) := by
  induction h1 with
  | nil => exact h2
  | keep b c _ ih => exact .keep b c ih
  | drop c _ ih => exact .drop c ih

theorem Aligned.ordinary_sublist {s t : Text} {st : ScanSt} (h : Aligned (marksFrom st s) s t) :
    (ordinaryFrom st s).Sublist t := by
  induction s generalizing st t with
  | nil => cases h; exact .slnil
  | cons c r ih =>
    rw [marksFrom] at h
    unfold ordinaryFrom
    generalize (scanStep st c).1 = b at h
    cases h with
    | keep _ _ h =>
      cases b
      · exact (ih h).cons_cons _
      · exact (ih h).cons _
    | drop _ h => exact ih h

theorem ordinaryFrom_sublist (st : ScanSt) (s : Text) : (ordinaryFrom st s).Sublist s :=
  Aligned.ordinary_sublist (aligned_self st s)

theorem Strips.keeps {s t : Text} (h : Strips s t) (st : ScanSt) : (ordinaryFrom st s).Sublist t :=
  Aligned.ordinary_sublist (h.aligned st)

end Curtsies
