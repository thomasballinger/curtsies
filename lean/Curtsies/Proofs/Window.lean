/- The window models (Model/Window.lean) against the terminal spec: the row cache, and the content loop and the blank
   loop that FullscreenWindow and CursorAwareWindow share. -/
import Curtsies.Model.Window
import Curtsies.Model.Width
import Curtsies.Proofs.Term
import Curtsies.Proofs.Slice
import Curtsies.Properties.C01
namespace Curtsies.Window
open Curtsies Curtsies.Spec Curtsies.Spec.Terminal

/-- no ESC / 8-bit CSI in the text (C01's domain) -/
def EscFree (l : FmtStr) : Prop := ∀ ch ∈ text l, ch ≠ Curtsies.ESC ∧ ch ≠ Curtsies.CSI8

/-- control characters: C0 (ESC, newline, tab, ...), DEL, C1 (0x9b, ...) -/
def isControl (ch : Char) : Bool :=
  ch.toNat < 0x20 || ch.toNat == 0x7f || (0x80 ≤ ch.toNat && ch.toNat ≤ 0x9f)

def Printable (l : FmtStr) : Prop := ∀ ch ∈ text l, isControl ch = false

/-- The rows the terminal spec's `put` is a terminal for ("single-column characters" in the properties' quantifiers):
    printable, each ONE column wide by the live `wcwidth` (`UEnv` of Model/Width.lean).  Wide and combining characters
    are outside it (C10). -/
def Glyphs (u : UEnv) (l : FmtStr) : Prop := Printable l ∧ ∀ ch ∈ text l, u.wcwidth ch = 1

theorem Printable.escFree {l : FmtStr} (h : Printable l) : EscFree l := by
  intro ch hch
  have hc : isControl ch = false := h ch hch
  constructor
  · rintro rfl; exact absurd hc (by decide)
  · rintro rfl; exact absurd hc (by decide)

theorem putStr_render (l : FmtStr) (h : EscFree l) : TermOp.putStr (render l) = .put (effCells l) {} := by
  unfold TermOp.putStr; rw [C01_display l h]

theorem render_inj (a b : FmtStr) (ha : EscFree a) (hb : EscFree b) (h : render a = render b) :
    effCells a = effCells b := by
  have := C01_display a ha
  rw [h, C01_display b hb] at this
  exact (congrArg Out.cells this).symm

theorem effCells_length (l : FmtStr) : (effCells l).length = len l := by
  simp [effCells, cells_length]

/-- `pyRange` between natural numbers, as first row and count: the loops' inductions run on the count -/
def intRows (k m : Nat) : List Int := (List.range' k m).map Int.ofNat

theorem pyRange_eq (a b : Nat) : pyRange a b = intRows a (b - a) := by
  have e : ((b : Int) - (a : Int)).toNat = b - a := by omega
  simp only [pyRange, intRows, e, List.range'_eq_map_range, List.map_map]
  apply List.map_congr_left
  intro i _
  simp

theorem intRows_succ (k m : Nat) : intRows k (m + 1) = (k : Int) :: intRows (k + 1) m := by
  simp [intRows, List.range'_succ]

theorem intRows_take (k m s : Nat) (h : s ≤ m) : (intRows k m).take s = intRows k s := by
  simp [intRows, ← List.map_take, List.take_range'_of_length_ge h]

theorem intRows_drop (k m s : Nat) : (intRows k m).drop s = intRows (k + s) (m - s) := by
  simp [intRows, ← List.map_drop, List.drop_range']

theorem intRows_length (k m : Nat) : (intRows k m).length = m := by simp [intRows]

theorem lookup_filter_ne (m : RowCache) (k k' : Int) (h : k' ≠ k) :
    (m.filter fun p => p.1 != k).lookup k' = m.lookup k' := by
  induction m with
  | nil => rfl
  | cons p ps ih =>
    obtain ⟨a, b⟩ := p
    by_cases ha : a = k
    · subst ha
      have : (k' == a) = false := by simp [h]
      simp [List.lookup_cons, this, ih]
    · have : (a != k) = true := by simp [ha]
      simp only [List.filter_cons, this, if_true, List.lookup_cons, ih]

theorem get_nil (k : Int) : RowCache.get [] k = none := rfl

theorem get_set (m : RowCache) (k k' : Int) (v : Option FmtStr) :
    (m.set k v).get k' = if k' = k then some v else m.get k' := by
  unfold RowCache.set RowCache.get
  by_cases h : k' = k
  · subst h; simp
  · have : (k' == k) = false := by simp [h]
    simp only [List.lookup_cons, this, if_neg h]
    exact lookup_filter_ne m k k' h

/-- the cells a cache claims for a row: none for `None` and for an absent key -/
def cacheCells (m : RowCache) (row : Int) : List TCell :=
  match m.get row with
  | some (some l) => effCells l
  | _ => []

/-- `lineEq` compares renderings; only for ESC-free lines do equal renderings mean equal cells (C01) -/
def CacheEsc (m : RowCache) : Prop := ∀ row l, m.get row = some (some l) → EscFree l

theorem cacheEsc_nil : CacheEsc [] := fun _ _ h => by cases h

/-- from row `k` down, the screen shows what a NON-EMPTY cache says (rows absent from it are blank) -/
def Coherent (m : RowCache) (t : Term) (k : Nat) : Prop :=
  m ≠ [] → ∀ row : Nat, k ≤ row → row < t.h → Shows t row (cacheCells m (row : Int))

theorem Shows.congr {t t' : Term} {row : Nat} {cs : List TCell} (hw : t'.w = t.w)
    (hg : ∀ c, t'.grid row c = t.grid row c) (h : Shows t row cs) : Shows t' row cs :=
  fun c hc => (hg c).trans (h c (hw ▸ hc))

theorem Coherent.below {m : RowCache} {t t' : Term} {k k' : Nat} (h : Coherent m t k) (hk : k ≤ k')
    (hh : t'.h = t.h) (hw : t'.w = t.w) (hg : ∀ r, k' ≤ r → ∀ c, t'.grid r c = t.grid r c) : Coherent m t' k' :=
  fun hne row h1 h2 => Shows.congr hw (hg row h1) (h hne row (Nat.le_trans hk h1) (hh ▸ h2))

theorem Coherent.step {m : RowCache} {t t' : Term} {k : Nat} (h : Coherent m t k) (hrs : RowStep t t' k) :
    Coherent m t' (k + 1) :=
  h.below (Nat.le_succ k) hrs.frame.h hrs.frame.w fun r hr => hrs.others r (Nat.ne_of_gt hr)

theorem contentLoop_cons (old : RowCache) (w : Nat) (clip : FmtStr → FmtStr) (row : Int) (rows : List Int)
    (line : FmtStr) (lines : List FmtStr) (cur : RowCache) :
    contentLoop old w clip (row :: rows) (line :: lines) cur =
      ((contentLoop old w clip rows lines (cur.set row (some (clip line)))).1,
       (if lineEq (clip line) (old.get row) then [] else writeLine row (clip line) w) ++
         (contentLoop old w clip rows lines (cur.set row (some (clip line)))).2) := by
  rfl

theorem contentLoop_nil (old : RowCache) (w : Nat) (clip : FmtStr → FmtStr) (rows : List Int) (cur : RowCache) :
    contentLoop old w clip rows [] cur = (cur, []) := by
  cases rows <;> rfl

/-- after the content loop on `lines` from row `k`, with new cache `cur'` -/
structure ContentPost (cur : RowCache) (clip : FmtStr → FmtStr) (lines : List FmtStr) (k : Nat) (t t' : Term)
    (cur' : RowCache) : Prop where
  frame : SameFrame t t'
  bg : t'.g = {}
  shows : ∀ i (hi : i < lines.length), Shows t' (k + i) (effCells (clip lines[i]))
  others : ∀ r, (r < k ∨ k + lines.length ≤ r) → ∀ c, t'.grid r c = t.grid r c
  cacheIn : ∀ i (hi : i < lines.length), cur'.get ((k + i : Nat) : Int) = some (some (clip lines[i]))
  cacheOut : ∀ row : Int, (row < (k : Int) ∨ ((k + lines.length : Nat) : Int) ≤ row) → cur'.get row = cur.get row

theorem lineEq_true {line : FmtStr} {v : Option (Option FmtStr)} (h : lineEq line v = true) :
    ∃ lo, v = some (some lo) ∧ render line = render lo := by
  unfold lineEq at h
  split at h
  · exact ⟨_, rfl, by simpa using h⟩
  · cases h

/-- one row of the content loop: a line that renders like the cached one is skipped, and is on the screen already -/
theorem contentLoop_row (old : RowCache) (hold : CacheEsc old) (t : Term) (k : Nat) (line : FmtStr)
    (hk : k < t.h) (hbg : t.g = {}) (hesc : EscFree line) (hlen : len line ≤ t.w) (hcoh : Coherent old t k) :
    RowStep t (exec t (if lineEq line (old.get k) then [] else writeLine k line t.w)) k ∧
    Shows (exec t (if lineEq line (old.get k) then [] else writeLine k line t.w)) k (effCells line) := by
  by_cases heq : lineEq line (old.get k) = true
  · rw [if_pos heq]
    obtain ⟨lo, hg, hr⟩ := lineEq_true heq
    have hne : old ≠ [] := fun h => by rw [h] at hg; cases hg
    have hshow := hcoh hne k (Nat.le_refl k) hk
    rw [cacheCells, hg] at hshow
    rw [render_inj line lo hesc (hold _ _ hg) hr]
    exact ⟨⟨SameFrame.refl t, fun _ _ _ => rfl, hbg⟩, hshow⟩
  · rw [if_neg heq]
    have e : writeLine (k : Int) line t.w =
        [.cup k 0, .put (effCells line) {}] ++ (if (effCells line).length < t.w then [TermOp.el0] else []) := by
      simp [writeLine, putStr_render line hesc, effCells_length]
    rw [e]
    exact exec_cup_put_el0 t k (effCells line) hk (by rw [effCells_length]; exact hlen)

theorem contentLoop_spec (old : RowCache) (w : Nat) (clip : FmtStr → FmtStr) (hold : CacheEsc old) :
    ∀ (lines : List FmtStr) (k m : Nat) (cur : RowCache) (t : Term),
      t.w = w → lines.length ≤ m → k + lines.length ≤ t.h → t.g = {} →
      (∀ l ∈ lines, EscFree (clip l) ∧ len (clip l) ≤ w) → Coherent old t k →
      ContentPost cur clip lines k t (exec t (contentLoop old w clip (intRows k m) lines cur).2)
        (contentLoop old w clip (intRows k m) lines cur).1 := by
  intro lines
  induction lines with
  | nil =>
    intro k m cur t _ _ _ hbg _ _
    rw [contentLoop_nil]
    exact ⟨SameFrame.refl t, hbg, fun i hi => absurd hi (Nat.not_lt_zero i), fun _ _ _ => rfl,
      fun i hi => absurd hi (Nat.not_lt_zero i), fun _ _ => rfl⟩
  | cons line rest ih =>
    intro k m cur t hw hm hk hbg hl hcoh
    rw [List.length_cons] at hm hk
    obtain ⟨m', rfl⟩ : ∃ m', m = m' + 1 := ⟨m - 1, by omega⟩
    rw [intRows_succ, contentLoop_cons, exec_append]
    have hline := hl line List.mem_cons_self
    obtain ⟨hrs, hsh⟩ := contentLoop_row old hold t k (clip line) (by omega) hbg hline.1 (by rw [hw]; exact hline.2) hcoh
    rw [hw] at hrs hsh
    generalize exec t (if lineEq (clip line) (old.get k) then [] else writeLine k (clip line) w) = t1 at hrs hsh
    have hk1 : k + 1 + rest.length ≤ t1.h := by rw [hrs.frame.h]; omega
    have post := ih (k + 1) m' (cur.set k (some (clip line))) t1 (by rw [hrs.frame.w]; exact hw)
      (Nat.le_of_succ_le_succ hm) hk1 hrs.bg (fun l hl' => hl l (List.mem_cons_of_mem _ hl')) (hcoh.step hrs)
    generalize exec t1 (contentLoop old w clip (intRows (k + 1) m') rest (cur.set k (some (clip line)))).2 = t2 at post
    generalize (contentLoop old w clip (intRows (k + 1) m') rest (cur.set k (some (clip line)))).1 = cur2 at post
    have e : ∀ j, k + (j + 1) = k + 1 + j := fun j => by omega
    refine ⟨hrs.frame.trans post.frame, post.bg, ?shows, ?others, ?cacheIn, ?cacheOut⟩
    case shows =>
      intro i hi
      cases i with
      | zero => exact Shows.congr post.frame.w (post.others k (Or.inl (Nat.lt_succ_self k))) hsh
      | succ j => rw [e]; exact post.shows j (Nat.lt_of_succ_lt_succ hi)
    case others =>
      intro r hr c
      rw [List.length_cons] at hr
      rw [post.others r (by omega) c]
      exact hrs.others r (by omega) c
    case cacheIn =>
      intro i hi
      cases i with
      | zero =>
        show cur2.get (k : Int) = some (some (clip line))
        rw [post.cacheOut (k : Int) (Or.inl (by omega)), get_set]
        exact if_pos rfl
      | succ j => rw [e]; exact post.cacheIn j (Nat.lt_of_succ_lt_succ hi)
    case cacheOut =>
      intro row hr
      rw [List.length_cons] at hr
      rw [post.cacheOut row (by omega), get_set, if_neg (by omega)]

theorem blankLoop_cons (old : RowCache) (row : Int) (rows : List Int) (cur : RowCache) :
    blankLoop old (row :: rows) cur =
      ((blankLoop old rows (if !old.isEmpty && !old.has row then cur else cur.set row none)).1,
       (if !old.isEmpty && !old.has row then [] else writeBlank row) ++
         (blankLoop old rows (if !old.isEmpty && !old.has row then cur else cur.set row none)).2) := by
  rw [blankLoop]
  split <;> rfl

/-- after the blank loop over the `m` rows from `k`; `cacheIn`: `None` if the row was cleared, as before if skipped -/
structure BlankPost (cur : RowCache) (k m : Nat) (t t' : Term) (cur' : RowCache) : Prop where
  frame : SameFrame t t'
  bg : t'.g = {}
  shows : ∀ r, k ≤ r → r < k + m → Shows t' r []
  others : ∀ r, (r < k ∨ k + m ≤ r) → ∀ c, t'.grid r c = t.grid r c
  cacheIn : ∀ r : Nat, k ≤ r → r < k + m → cur'.get (r : Int) = some none ∨ cur'.get (r : Int) = cur.get (r : Int)
  cacheOut : ∀ row : Int, (row < (k : Int) ∨ ((k + m : Nat) : Int) ≤ row) → cur'.get row = cur.get row

/-- one row of the blank loop: a row absent from a non-empty cache is skipped, and is blank already -/
theorem blankLoop_row (old : RowCache) (t : Term) (k : Nat) (hk : k < t.h) (hbg : t.g = {}) (hcoh : Coherent old t k) :
    RowStep t (exec t (if !old.isEmpty && !old.has (k : Int) then [] else writeBlank k)) k ∧
    Shows (exec t (if !old.isEmpty && !old.has (k : Int) then [] else writeBlank k)) k [] := by
  by_cases hskip : (!old.isEmpty && !old.has (k : Int)) = true
  · rw [if_pos hskip]
    have hne : old ≠ [] := by
      intro h; rw [h] at hskip; simp at hskip
    have hnone : old.get (k : Int) = none := by
      simp [RowCache.has] at hskip
      exact hskip.2
    have hshow := hcoh hne k (Nat.le_refl k) hk
    rw [cacheCells, hnone] at hshow
    exact ⟨⟨SameFrame.refl t, fun _ _ _ => rfl, hbg⟩, hshow⟩
  · rw [if_neg hskip, show writeBlank (k : Int) = [.cup k 0, .el0, .el1] by simp [writeBlank]]
    exact exec_cup_el0_el1 t k hk hbg

theorem blankLoop_spec (old : RowCache) :
    ∀ (m k : Nat) (cur : RowCache) (t : Term), k + m ≤ t.h → t.g = {} → Coherent old t k →
      BlankPost cur k m t (exec t (blankLoop old (intRows k m) cur).2) (blankLoop old (intRows k m) cur).1 := by
  intro m
  induction m with
  | zero =>
    intro k cur t _ hbg _
    exact ⟨SameFrame.refl t, hbg, fun r h1 h2 => absurd h2 (Nat.not_lt.mpr h1), fun _ _ _ => rfl,
      fun r h1 h2 => absurd h2 (Nat.not_lt.mpr h1), fun _ _ => rfl⟩
  | succ m ih =>
    intro k cur t hk hbg hcoh
    rw [intRows_succ, blankLoop_cons, exec_append]
    obtain ⟨hrs, hsh⟩ := blankLoop_row old t k (by omega) hbg hcoh
    generalize exec t _ = t1 at hrs hsh
    generalize hcur1 : (if !old.isEmpty && !old.has (k : Int) then cur else cur.set (k : Int) none) = cur1
    have hget : ∀ row : Int, row ≠ k → cur1.get row = cur.get row := by
      intro row hr
      rw [← hcur1]
      split
      · rfl
      · rw [get_set, if_neg hr]
    have hgetk : cur1.get (k : Int) = some none ∨ cur1.get (k : Int) = cur.get (k : Int) := by
      rw [← hcur1]
      split
      · exact Or.inr rfl
      · exact Or.inl (by rw [get_set, if_pos rfl])
    have hk1 : k + 1 + m ≤ t1.h := by rw [hrs.frame.h]; omega
    have post := ih (k + 1) cur1 t1 hk1 hrs.bg (hcoh.step hrs)
    generalize exec t1 (blankLoop old (intRows (k + 1) m) cur1).2 = t2 at post
    generalize (blankLoop old (intRows (k + 1) m) cur1).1 = cur2 at post
    refine ⟨hrs.frame.trans post.frame, post.bg, ?shows, ?others, ?cacheIn, ?cacheOut⟩
    case shows =>
      intro r h1 h2
      by_cases hr : r = k
      · subst hr
        exact Shows.congr post.frame.w (post.others r (Or.inl (Nat.lt_succ_self r))) hsh
      · exact post.shows r (by omega) (by omega)
    case others =>
      intro r hr c
      rw [post.others r (by omega) c]
      exact hrs.others r (by omega) c
    case cacheIn =>
      intro r h1 h2
      by_cases hr : r = k
      · subst hr
        rw [post.cacheOut (r : Int) (Or.inl (by omega))]
        exact hgetk
      · exact (post.cacheIn r (by omega) (by omega)).imp_right fun h => h.trans (hget r (by omega))
    case cacheOut =>
      intro row hr
      rw [post.cacheOut row (by omega)]
      exact hget row (by omega)

/-- `Coherent` without the exception for an empty cache: what holds of the cache a render has just built -/
def RowsShow (t : Term) (cur : RowCache) (k : Nat) : Prop :=
  ∀ row, k ≤ row → row < t.h → Shows t row (cacheCells cur (row : Int))

theorem RowsShow.coherent {t : Term} {cur : RowCache} {k : Nat} (h : RowsShow t cur k) : Coherent cur t k :=
  fun _ => h

-- `if p then m else []`: the cache a render compares against is the window's unless the size changed since the last render
theorem cacheEsc_ite {p : Prop} [Decidable p] {m : RowCache} (h : CacheEsc m) : CacheEsc (if p then m else []) := by
  split
  · exact h
  · exact cacheEsc_nil

theorem coherent_ite {p : Prop} [Decidable p] {m : RowCache} {t : Term} {k : Nat} (h : p → Coherent m t k) :
    Coherent (if p then m else []) t k := by
  split
  · exact h ‹_›
  · intro h; exact absurd rfl h

/-- what the two loops every render starts with achieve, run from row `k` down on `lines` (which fit) -/
structure Painted (clip : FmtStr → FmtStr) (lines : List FmtStr) (k : Nat) (t t' : Term) (cur' : RowCache) : Prop where
  frame : SameFrame t t'
  bg : t'.g = {}
  above : ∀ r, r < k → ∀ c, t'.grid r c = t.grid r c
  shows : ∀ i, k + i < t.h → Shows t' (k + i) (match lines[i]? with | some l => effCells (clip l) | none => [])
  esc : CacheEsc cur'
  rows : RowsShow t' cur' k

/-- The content loop on `lines` from row `k`, then the blank loop on every row below them.  `m`: the rows the content loop
    is offered (FullscreenWindow: the whole height); `s`: a variable of its own so that a caller may write `lines.length`
    in its own way. -/
theorem paint_spec (old : RowCache) (clip : FmtStr → FmtStr) (hold : CacheEsc old) (lines : List FmtStr)
    (k s m : Nat) (t : Term) (hs : lines.length = s) (hm : s ≤ m) (hk : k + s ≤ t.h)
    (hbg : t.g = {}) (hl : ∀ l ∈ lines, EscFree (clip l) ∧ len (clip l) ≤ t.w) (hcoh : Coherent old t k) :
    let c1 := contentLoop old t.w clip (intRows k m) lines []
    let c2 := blankLoop old (intRows (k + s) (t.h - k - s)) c1.1
    Painted clip lines k t (exec t (c1.2 ++ c2.2)) c2.1 := by
  subst hs
  dsimp only
  have p1 := contentLoop_spec old t.w clip hold lines k m [] t rfl hm hk hbg hl hcoh
  generalize contentLoop old t.w clip (intRows k m) lines [] = c1 at p1 ⊢
  rw [exec_append]
  generalize exec t c1.2 = t1 at p1 ⊢
  have p2 := blankLoop_spec old (t.h - k - lines.length) (k + lines.length) c1.1 t1
    (by rw [p1.frame.h, Nat.sub_sub]; exact Nat.le_of_eq (Nat.add_sub_of_le hk)) p1.bg
    (hcoh.below (Nat.le_add_right _ _) p1.frame.h p1.frame.w fun r hr => p1.others r (Or.inr hr))
  generalize blankLoop old (intRows (k + lines.length) (t.h - k - lines.length)) c1.1 = c2 at p2 ⊢
  generalize exec t1 c2.2 = t2 at p2 ⊢
  have h2h : t2.h = t.h := by rw [p2.frame.h, p1.frame.h]
  have hin : ∀ i (hi : i < lines.length), c2.1.get ((k + i : Nat) : Int) = some (some (clip lines[i])) := fun i hi =>
    (p2.cacheOut _ (Or.inl (Int.ofNat_lt.mpr (Nat.add_lt_add_left hi k)))).trans (p1.cacheIn i hi)
  have hout : ∀ row : Int, (row < (k : Int) ∨ ((k + lines.length : Nat) : Int) ≤ row) →
      c2.1.get row = some none ∨ c2.1.get row = none := by
    intro row hrow
    have hc1 : c1.1.get row = none := p1.cacheOut row hrow
    by_cases hblank : ((k + lines.length : Nat) : Int) ≤ row ∧ row < (t.h : Int)
    · obtain ⟨r, rfl⟩ : ∃ r : Nat, row = (r : Int) := ⟨row.toNat, by omega⟩
      exact (p2.cacheIn r (by omega) (by omega)).imp_right fun h => h.trans hc1
    · exact Or.inr ((p2.cacheOut row (by omega)).trans hc1)
  have hshow : ∀ i, k + i < t.h →
      Shows t2 (k + i) (match lines[i]? with | some l => effCells (clip l) | none => []) := by
    intro i hi
    by_cases hlt : i < lines.length
    · rw [List.getElem?_eq_getElem hlt]
      exact Shows.congr p2.frame.w (p2.others (k + i) (Or.inl (Nat.add_lt_add_left hlt k))) (p1.shows i hlt)
    · rw [List.getElem?_eq_none (Nat.le_of_not_lt hlt)]
      exact p2.shows (k + i) (Nat.add_le_add_left (Nat.le_of_not_lt hlt) k) (by omega)
  refine ⟨p1.frame.trans p2.frame, p2.bg, fun r hr c => ?above, hshow, ?esc, ?rows⟩
  case above =>
    rw [p2.others r (Or.inl (Nat.lt_of_lt_of_le hr (Nat.le_add_right k _))) c, p1.others r (Or.inl hr) c]
  case esc =>
    intro row l hget
    by_cases hrow : (k : Int) ≤ row ∧ row < ((k + lines.length : Nat) : Int)
    · obtain ⟨i, rfl⟩ : ∃ i : Nat, row = ((k + i : Nat) : Int) := ⟨(row - k).toNat, by omega⟩
      have hi : i < lines.length := by omega
      rw [hin i hi] at hget
      cases hget
      exact (hl _ (List.getElem_mem hi)).1
    · rcases hout row (by omega) with h | h <;> rw [h] at hget <;> cases hget
  case rows =>
    intro row h1 h2
    rw [h2h] at h2
    obtain ⟨i, rfl⟩ : ∃ i, row = k + i := ⟨row - k, by omega⟩
    have hsh := hshow i h2
    unfold cacheCells
    by_cases hi : i < lines.length
    · rw [hin i hi]
      rw [List.getElem?_eq_getElem hi] at hsh
      exact hsh
    · rw [List.getElem?_eq_none (Nat.le_of_not_lt hi)] at hsh
      rcases hout ((k + i : Nat) : Int) (by omega) with h | h <;> rw [h] <;> exact hsh

/-- `paint_spec` as every render runs it: with the cursor hidden, between the two halves of `exec_framed`
    (`exec_framed_on` when the cursor is then put on the screen) -/
theorem paint_framed (old : RowCache) (clip : FmtStr → FmtStr) (hold : CacheEsc old) (lines : List FmtStr)
    (k s m : Nat) (t : Term) (hs : lines.length = s) (hm : s ≤ m) (hk : k + s ≤ t.h) (hbg : t.g = {})
    (hl : ∀ l ∈ lines, EscFree (clip l) ∧ len (clip l) ≤ t.w) (hcoh : Coherent old t k) (hideCursor : Bool) :
    let c1 := contentLoop old t.w clip (intRows k m) lines []
    let c2 := blankLoop old (intRows (k + s) (t.h - k - s)) c1.1
    let t1 := { t with cursorVisible := if hideCursor then t.cursorVisible else false }
    Painted clip lines k t1 (exec t1 (c1.2 ++ c2.2)) c2.1 :=
  paint_spec old clip hold lines k s m { t with cursorVisible := if hideCursor then t.cursorVisible else false }
    hs hm hk hbg hl hcoh

end Curtsies.Window
