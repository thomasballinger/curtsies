/-
  The checked interpreter of the heap model (Model/Heap.lean) is sound, for C13.

  `Good u o h`: the invariant of a heap while a command owns the unpublished lists `o`. `Pres h h'`, the frame
  relation: a run object keeps its value, a FmtStr object its list object, a list that a FmtStr holds its
  contents (only an unpublished list may change). Assertions about objects are in value form (`h.value r = some v`:
  `r` exists and holds `v`; likewise `chunkVal`, `valsOf`, `listVal`). One about a FmtStr or about runs survives
  every `Pres` step; one about a list object (`Pres.listVal_some`) only a step that leaves that list alone, since
  `Pres` says nothing of a list no FmtStr holds (hence `Keeps` and the second conjunct of `listExtend_val` in
  Proofs/Heap.lean). Per primitive heap update a `pres_*` lemma (it satisfies `Pres`) and a `step_*` lemma (it also
  keeps `Good`), and one induction over `Cmd` (`interp_checked`): what passes the checked interpreter is what the
  plain semantics computes, keeps `Good` and satisfies `Pres`.
-/
import Curtsies.Model.Heap
namespace Curtsies.Heap
open Curtsies

/-- `fmtList`, `listElems`: no reference dangles. `owned`: a list in `o` exists and no FmtStr holds it, so a write to it changes
    no value (`pres_setList`) and `newFmt l` has to take `l` out of `o` (`step_allocFmt`). `chunkMemo`, `fmtMemo`: a memo field is
    unset or holds what the checked interpreter accepts for it. -/
structure Good (u : UEnv) (o : List Nat) (h : Heap) : Prop where
  fmtList : ∀ (r : Nat) (f : FmtObj), h.fmts[r]? = some f → f.chunks < h.lists.length
  listElems : ∀ (l : Nat) (cs : List Nat), h.lists[l]? = some cs → h.chunkIds cs
  owned : ∀ l, l ∈ o → l < h.lists.length ∧ ∀ (r : Nat) (f : FmtObj), h.fmts[r]? = some f → f.chunks ≠ l
  chunkMemo : ∀ (c : Nat) (x : ChunkObj), h.chunks[c]? = some x → ∀ v, x.colorStr = some v → v = Chunk.colorStr x.val
  fmtMemo : ∀ (r : Nat) (f : FmtObj), h.fmts[r]? = some f →
    (∀ v, f.uni = some v → h.freshUni r v) ∧ (∀ v, f.len = some v → h.freshLen r v) ∧
    (∀ v, f.s = some v → h.freshS r v) ∧ (∀ v, f.width = some v → h.freshWidth u r v)

structure Pres (h h' : Heap) : Prop where
  chunks : ∀ (c : Nat) (x : ChunkObj), h.chunks[c]? = some x → ∃ x' : ChunkObj, h'.chunks[c]? = some x' ∧ x'.val = x.val
  fmts : ∀ (r : Nat) (f : FmtObj), h.fmts[r]? = some f → ∃ f' : FmtObj, h'.fmts[r]? = some f' ∧ f'.chunks = f.chunks
  lists : ∀ (r : Nat) (f : FmtObj), h.fmts[r]? = some f → h'.lists[f.chunks]? = h.lists[f.chunks]?
  nlists : h.lists.length ≤ h'.lists.length

theorem Pres.refl (h : Heap) : Pres h h :=
  ⟨fun _ x hx => ⟨x, hx, rfl⟩, fun _ f hf => ⟨f, hf, rfl⟩, fun _ _ _ => rfl, Nat.le_refl _⟩

theorem Pres.trans {a b c : Heap} (h1 : Pres a b) (h2 : Pres b c) : Pres a c := by
  refine ⟨?_, ?_, ?_, Nat.le_trans h1.nlists h2.nlists⟩
  · intro i x hx
    obtain ⟨x', hx', e1⟩ := h1.chunks i x hx
    obtain ⟨x'', hx'', e2⟩ := h2.chunks i x' hx'
    exact ⟨x'', hx'', e2.trans e1⟩
  · intro r f hf
    obtain ⟨f', hf', e1⟩ := h1.fmts r f hf
    obtain ⟨f'', hf'', e2⟩ := h2.fmts r f' hf'
    exact ⟨f'', hf'', e2.trans e1⟩
  · intro r f hf
    obtain ⟨f', hf', e1⟩ := h1.fmts r f hf
    have := h2.lists r f' hf'
    rw [e1] at this
    rw [this, h1.lists r f hf]

theorem getElem?_snoc {α : Type} {l : List α} {x y : α} {i : Nat} (hx : (l ++ [x])[i]? = some y) :
    l[i]? = some y ∨ (i = l.length ∧ y = x) := by
  by_cases hi : i < l.length
  · exact .inl (by rwa [List.getElem?_append_left hi] at hx)
  · rw [List.getElem?_append_right (Nat.le_of_not_lt hi), List.getElem?_singleton] at hx
    split at hx
    · exact .inr ⟨Nat.le_antisymm (Nat.le_of_sub_eq_zero ‹_›) (Nat.le_of_not_lt hi), (Option.some.inj hx).symm⟩
    · cases hx

theorem getElem?_set_some {α : Type} {l : List α} {i j : Nat} {x y : α} (h : (l.set i x)[j]? = some y) :
    (j = i ∧ y = x) ∨ l[j]? = some y := by
  by_cases e : i = j
  · subst e
    have hl : i < l.length := by simpa using (List.getElem?_eq_some_iff.mp h).1
    rw [List.getElem?_set_self hl] at h
    exact Or.inl ⟨rfl, (Option.some.inj h).symm⟩
  · rw [List.getElem?_set_ne e] at h
    exact Or.inr h

section
variable {u : UEnv} {o : List Nat} {h h' : Heap}

-- `h.value` and `h.listVal` are `Option.bind`s, `h.chunkVal` an `Option.map`, over the tables: `Option.bind_eq_some_iff` /
-- `Option.map_eq_some_iff` open an assertion in value form, here and in Proofs/Heap.lean
theorem value_lt {r : Nat} {v : FmtStr} (hv : h.value r = some v) : r < h.fmts.length := by
  obtain ⟨f, hf, _⟩ := Option.bind_eq_some_iff.mp hv
  exact (List.getElem?_eq_some_iff.mp hf).1

theorem chunkVal_lt {c : Nat} {v : Chunk} (hv : h.chunkVal c = some v) : c < h.chunks.length := by
  obtain ⟨x, hx, _⟩ := Option.map_eq_some_iff.mp hv
  exact (List.getElem?_eq_some_iff.mp hx).1

theorem listVal_lt {l : Nat} {v : FmtStr} (hv : h.listVal l = some v) : l < h.lists.length := by
  obtain ⟨cs, hl, _⟩ := Option.bind_eq_some_iff.mp hv
  exact (List.getElem?_eq_some_iff.mp hl).1

theorem valsOf_cons {c : Nat} {cs : List Nat} {w : FmtStr} :
    h.valsOf (c :: cs) = some w ↔ ∃ v vs, h.chunkVal c = some v ∧ h.valsOf cs = some vs ∧ w = v :: vs := by
  simp only [Heap.valsOf]
  cases h.chunkVal c <;> cases h.valsOf cs <;> simp [eq_comm]

/-- `valsOf` reads the run table only. The `step_*` lemmas go through `Pres.valsOf_some`, which also lets a run's memo field change. -/
theorem valsOf_congr {h h' : Heap} (e : h'.chunks = h.chunks) (cs : List Nat) : h'.valsOf cs = h.valsOf cs := by
  induction cs with
  | nil => rfl
  | cons c cs ih => simp only [Heap.valsOf, Heap.chunkVal, e, ih]

theorem valsOf_single {c : Nat} {v : Chunk} (hc : h.chunkVal c = some v) : h.valsOf [c] = some [v] :=
  valsOf_cons.mpr ⟨v, [], hc, rfl, rfl⟩

theorem valsOf_append {x y : List Nat} {a b : FmtStr} (hx : h.valsOf x = some a) (hy : h.valsOf y = some b) :
    h.valsOf (x ++ y) = some (a ++ b) := by
  induction x generalizing a with
  | nil => cases (Option.some.inj hx : [] = a); exact hy
  | cons c cs ih =>
    obtain ⟨v, vs, h1, h2, rfl⟩ := valsOf_cons.mp hx
    exact valsOf_cons.mpr ⟨v, vs ++ b, h1, ih h2, rfl⟩

theorem valsOf_ids {cs : List Nat} {vs : FmtStr} (hv : h.valsOf cs = some vs) : h.chunkIds cs := by
  induction cs generalizing vs with
  | nil => exact fun c hm => by cases hm
  | cons c cs ih =>
    obtain ⟨v, vs', h1, h2, _⟩ := valsOf_cons.mp hv
    intro x hm
    rcases List.mem_cons.mp hm with e | m
    · subst e; exact chunkVal_lt h1
    · exact ih h2 x m

theorem chunkVal_some_of_lt {c : Nat} (hc : c < h.chunks.length) : ∃ cv, h.chunkVal c = some cv :=
  ⟨h.chunks[c].val, by simp [Heap.chunkVal, List.getElem?_eq_getElem hc]⟩

theorem valsOf_some_of_ids {cs : List Nat} (hc : h.chunkIds cs) : ∃ v, h.valsOf cs = some v := by
  induction cs with
  | nil => exact ⟨[], rfl⟩
  | cons c cs ih =>
    obtain ⟨v, hv⟩ := ih (fun x hx => hc x (List.mem_cons_of_mem _ hx))
    obtain ⟨cv, hcv⟩ := chunkVal_some_of_lt (hc c List.mem_cons_self)
    exact ⟨_, valsOf_cons.mpr ⟨cv, v, hcv, hv, rfl⟩⟩

/-- on two fields of `Good` unbundled, which `WF` of Properties/C13.lean has as well (`WF.value_some`) -/
theorem value_some_of (hfl : ∀ (r : Nat) (f : FmtObj), h.fmts[r]? = some f → f.chunks < h.lists.length)
    (hle : ∀ (l : Nat) (cs : List Nat), h.lists[l]? = some cs → h.chunkIds cs) {r : Nat} (hr : r < h.fmts.length) :
    ∃ v, h.value r = some v := by
  have hf := List.getElem?_eq_getElem hr
  have hl := List.getElem?_eq_getElem (hfl r _ hf)
  obtain ⟨v, hv⟩ := valsOf_some_of_ids (hle _ _ hl)
  exact ⟨v, by simp [Heap.value, Heap.listVal, hf, hl, hv]⟩

theorem Good.value_some (g : Good u o h) {r : Nat} (hr : r < h.fmts.length) : ∃ v, h.value r = some v :=
  value_some_of g.fmtList g.listElems hr

theorem Good.listVal_some (g : Good u o h) {l : Nat} (hl : l < h.lists.length) : ∃ v, h.listVal l = some v := by
  have e := List.getElem?_eq_getElem hl
  obtain ⟨v, hv⟩ := valsOf_some_of_ids (g.listElems _ _ e)
  exact ⟨v, by simp [Heap.listVal, e, hv]⟩

theorem Pres.chunkVal_some (p : Pres h h') {c : Nat} {v : Chunk} (hv : h.chunkVal c = some v) :
    h'.chunkVal c = some v := by
  obtain ⟨x, hx, ex⟩ := Option.map_eq_some_iff.mp hv
  obtain ⟨x', hx', e⟩ := p.chunks c x hx
  rw [Heap.chunkVal, hx', Option.map_some, e, ex]

theorem Pres.valsOf_some (p : Pres h h') {cs : List Nat} {v : FmtStr} (hv : h.valsOf cs = some v) :
    h'.valsOf cs = some v := by
  induction cs generalizing v with
  | nil => exact hv
  | cons c cs ih =>
    obtain ⟨x, xs, h1, h2, e⟩ := valsOf_cons.mp hv
    exact valsOf_cons.mpr ⟨x, xs, p.chunkVal_some h1, ih h2, e⟩

theorem Pres.listVal_some (p : Pres h h') {l : Nat} {v : FmtStr} (e : h'.lists[l]? = h.lists[l]?)
    (hv : h.listVal l = some v) : h'.listVal l = some v := by
  obtain ⟨cs, hl, hcs⟩ := Option.bind_eq_some_iff.mp hv
  rw [Heap.listVal, e, hl]
  exact p.valsOf_some hcs

theorem Pres.value_some (p : Pres h h') {r : Nat} {v : FmtStr} (hv : h.value r = some v) : h'.value r = some v := by
  obtain ⟨f, hf, hl⟩ := Option.bind_eq_some_iff.mp hv
  obtain ⟨f', hf', e⟩ := p.fmts r f hf
  rw [Heap.value, hf', Option.bind_some, e]
  exact p.listVal_some (p.lists r f hf) hl

/-- the frame fact behind `C13_frame` -/
theorem Pres.value (p : Pres h h') (g : Good u o h) {r : Nat} (hr : r < h.fmts.length) : h'.value r = h.value r := by
  obtain ⟨v, hv⟩ := g.value_some hr
  rw [hv, p.value_some hv]

theorem Pres.fmt_lt (p : Pres h h') {r : Nat} (hr : r < h.fmts.length) : r < h'.fmts.length := by
  obtain ⟨x', hx', _⟩ := p.fmts r h.fmts[r] (List.getElem?_eq_getElem hr)
  exact (List.getElem?_eq_some_iff.mp hx').1

theorem Pres.chunkIds (p : Pres h h') {cs : List Nat} (hc : h.chunkIds cs) : h'.chunkIds cs := by
  intro c hm
  obtain ⟨v, hv⟩ := chunkVal_some_of_lt (hc c hm)
  exact chunkVal_lt (p.chunkVal_some hv)

theorem freshUni_iff {r : Nat} {v : FmtStr} (hv : h.value r = some v) {x : Text} : h.freshUni r x ↔ x = render v := by
  simp [Heap.freshUni, hv, eq_comm]

theorem freshLen_iff {r : Nat} {v : FmtStr} (hv : h.value r = some v) {x : Nat} : h.freshLen r x ↔ x = len v := by
  simp [Heap.freshLen, hv, eq_comm]

theorem freshS_iff {r : Nat} {v : FmtStr} (hv : h.value r = some v) {x : Text} : h.freshS r x ↔ x = text v := by
  simp [Heap.freshS, hv, eq_comm]

theorem freshWidth_iff {r : Nat} {v : FmtStr} (hv : h.value r = some v) {x : Int} :
    h.freshWidth u r x ↔ fmtWidth u v = .ok x := by
  simp only [Heap.freshWidth, hv]
  cases fmtWidth u v <;> simp

theorem Good.memo_pres (g : Good u o h) (p : Pres h h') (r : Nat) (f : FmtObj) (hf : h.fmts[r]? = some f) :
    (∀ v, f.uni = some v → h'.freshUni r v) ∧ (∀ v, f.len = some v → h'.freshLen r v) ∧
    (∀ v, f.s = some v → h'.freshS r v) ∧ (∀ v, f.width = some v → h'.freshWidth u r v) := by
  have hv := p.value g (List.getElem?_eq_some_iff.mp hf).1
  simpa only [Heap.freshUni, Heap.freshLen, Heap.freshS, Heap.freshWidth, hv] using g.fmtMemo r f hf

/-! A new run or FmtStr object and a write to a memo field satisfy `Pres` on any heap. A new list object needs
  `Good.fmtList` (no FmtStr holds the new index), a write to a list `Good.owned`. -/

theorem pres_allocChunk (h : Heap) (s : Text) (a : Atts) : Pres h (h.allocChunk s a) := by
  refine ⟨?_, fun _ f hf => ⟨f, hf, rfl⟩, fun _ _ _ => rfl, Nat.le_refl _⟩
  intro c x hx
  refine ⟨x, ?_, rfl⟩
  have hc := (List.getElem?_eq_some_iff.mp hx).1
  simp only [Heap.allocChunk]
  rwa [List.getElem?_append_left hc]

theorem step_allocChunk (g : Good u o h) (s : Text) (a : Atts) :
    Good u o (h.allocChunk s a) ∧ Pres h (h.allocChunk s a) := by
  have p := pres_allocChunk h s a
  refine ⟨⟨g.fmtList, ?_, g.owned, ?_, g.memo_pres p⟩, p⟩
  · intro l cs hl
    exact p.chunkIds (g.listElems l cs hl)
  · intro c x hx v hv
    rcases getElem?_snoc hx with h1 | ⟨_, e⟩
    · exact g.chunkMemo c x h1 v hv
    · subst e; cases hv

theorem pres_allocList (h : Heap) (xs : List Nat)
    (hfl : ∀ (r : Nat) (f : FmtObj), h.fmts[r]? = some f → f.chunks < h.lists.length) : Pres h (h.allocList xs) := by
  refine ⟨fun _ x hx => ⟨x, hx, rfl⟩, fun _ f hf => ⟨f, hf, rfl⟩, ?_, by simp [Heap.allocList]⟩
  intro r f hf
  simp only [Heap.allocList]
  rw [List.getElem?_append_left (hfl r f hf)]

theorem step_allocList (g : Good u o h) {xs : List Nat} (hx : h.chunkIds xs) :
    Good u (h.lists.length :: o) (h.allocList xs) ∧ Pres h (h.allocList xs) := by
  have p := pres_allocList h xs g.fmtList
  refine ⟨⟨?_, ?_, ?_, g.chunkMemo, g.memo_pres p⟩, p⟩
  · exact fun r f hf => Nat.lt_of_lt_of_le (g.fmtList r f hf) p.nlists
  · intro l cs hl
    rcases getElem?_snoc hl with h1 | ⟨_, e⟩
    · exact g.listElems l cs h1
    · subst e; exact hx
  · intro l hl
    simp only [List.mem_cons] at hl
    rcases hl with e | hl
    · subst e
      exact ⟨by simp [Heap.allocList], fun r f hf => Nat.ne_of_lt (g.fmtList r f hf)⟩
    · exact ⟨Nat.lt_of_lt_of_le (g.owned l hl).1 p.nlists, (g.owned l hl).2⟩

theorem pres_allocFmt (h : Heap) (l : Nat) : Pres h (h.allocFmt l) := by
  refine ⟨fun _ x hx => ⟨x, hx, rfl⟩, ?_, fun _ _ _ => rfl, Nat.le_refl _⟩
  intro r f hf
  refine ⟨f, ?_, rfl⟩
  have hc := (List.getElem?_eq_some_iff.mp hf).1
  simp only [Heap.allocFmt]
  rwa [List.getElem?_append_left hc]

theorem step_allocFmt (g : Good u o h) {l : Nat} (hl : l ∈ o) :
    Good u (o.filter (· ≠ l)) (h.allocFmt l) ∧ Pres h (h.allocFmt l) := by
  have p := pres_allocFmt h l
  refine ⟨⟨?_, g.listElems, ?_, g.chunkMemo, ?_⟩, p⟩
  · intro r f hf
    rcases getElem?_snoc hf with h1 | ⟨_, e⟩
    · exact g.fmtList r f h1
    · subst e; exact (g.owned l hl).1
  · intro l' hl'
    simp only [List.mem_filter, decide_eq_true_eq] at hl'
    refine ⟨(g.owned l' hl'.1).1, ?_⟩
    intro r f hf
    rcases getElem?_snoc hf with h1 | ⟨_, e⟩
    · exact (g.owned l' hl'.1).2 r f h1
    · subst e; exact fun e => hl'.2 e.symm
  · intro r f hf
    rcases getElem?_snoc hf with h1 | ⟨_, e⟩
    · exact g.memo_pres p _ _ h1
    · subst e; simp

theorem pres_setList (g : Good u o h) {l : Nat} (hl : l ∈ o) (zs : List Nat) : Pres h (h.setList l zs) := by
  refine ⟨fun _ x hx => ⟨x, hx, rfl⟩, fun _ f hf => ⟨f, hf, rfl⟩, ?_, by simp [Heap.setList]⟩
  intro r f hf
  have := (g.owned l hl).2 r f hf
  simp only [Heap.setList]
  rw [List.getElem?_set_ne (fun e => this e.symm)]

theorem step_setList (g : Good u o h) {l : Nat} (hl : l ∈ o) {zs : List Nat}
    (hz : h.chunkIds zs) : Good u o (h.setList l zs) ∧ Pres h (h.setList l zs) := by
  have p := pres_setList g hl zs
  refine ⟨⟨?_, ?_, ?_, g.chunkMemo, g.memo_pres p⟩, p⟩
  · intro r f hf
    simpa [Heap.setList] using g.fmtList r f hf
  · intro l' cs hl'
    rcases getElem?_set_some hl' with ⟨_, rfl⟩ | h1
    · exact hz
    · exact g.listElems l' cs h1
  · intro l' hl'
    have := g.owned l' hl'
    exact ⟨by simpa [Heap.setList] using this.1, this.2⟩

theorem pres_setChunkMemo (h : Heap) {c : Nat} {x : ChunkObj} (hc : h.chunks[c]? = some x) (m : Option Text) :
    Pres h (h.setChunk c { x with colorStr := m }) := by
  refine ⟨?_, fun _ f hf => ⟨f, hf, rfl⟩, fun _ _ _ => rfl, Nat.le_refl _⟩
  intro c' x' hx'
  simp only [Heap.setChunk]
  by_cases e : c = c'
  · subst e
    rw [hc] at hx'; cases hx'
    exact ⟨_, List.getElem?_set_self (List.getElem?_eq_some_iff.mp hc).1, rfl⟩
  · rw [List.getElem?_set_ne e]; exact ⟨x', hx', rfl⟩

theorem step_setColorStr (g : Good u o h) {c : Nat} {x : ChunkObj}
    (hc : h.chunks[c]? = some x) {v : Text} (hv : v = Chunk.colorStr x.val) :
    Good u o (h.setChunk c { x with colorStr := some v }) ∧ Pres h (h.setChunk c { x with colorStr := some v }) := by
  have p := pres_setChunkMemo h hc (some v)
  refine ⟨⟨g.fmtList, ?_, g.owned, ?_, g.memo_pres p⟩, p⟩
  · intro l cs hl
    exact p.chunkIds (g.listElems l cs hl)
  · intro c' x' hx' v' hv'
    rcases getElem?_set_some hx' with ⟨_, rfl⟩ | h1
    · exact Option.some.inj hv' ▸ hv
    · exact g.chunkMemo c' x' h1 v' hv'

/-- a FmtStr object may be overwritten by one with the same list object: only memo fields change -/
theorem pres_setFmt (h : Heap) {r : Nat} {f f' : FmtObj} (hr : h.fmts[r]? = some f) (e : f'.chunks = f.chunks) :
    Pres h (h.setFmt r f') := by
  refine ⟨fun _ x hx => ⟨x, hx, rfl⟩, ?_, fun _ _ _ => rfl, Nat.le_refl _⟩
  intro r' x hx
  simp only [Heap.setFmt]
  by_cases e' : r = r'
  · subst e'
    rw [hr] at hx; cases hx
    exact ⟨f', List.getElem?_set_self (List.getElem?_eq_some_iff.mp hr).1, e⟩
  · rw [List.getElem?_set_ne e']; exact ⟨x, hx, rfl⟩

theorem step_setFmt (g : Good u o h) {r : Nat} {f f' : FmtObj}
    (hr : h.fmts[r]? = some f) (e : f'.chunks = f.chunks)
    (hm : (∀ v, f'.uni = some v → h.freshUni r v) ∧ (∀ v, f'.len = some v → h.freshLen r v) ∧
      (∀ v, f'.s = some v → h.freshS r v) ∧ (∀ v, f'.width = some v → h.freshWidth u r v)) :
    Good u o (h.setFmt r f') ∧ Pres h (h.setFmt r f') := by
  have p := pres_setFmt h hr e
  refine ⟨⟨?_, g.listElems, ?_, g.chunkMemo, ?_⟩, p⟩
  · intro r' f'' hf
    rcases getElem?_set_some hf with ⟨rfl, rfl⟩ | h1
    · rw [e]; exact g.fmtList _ f hr
    · exact g.fmtList r' f'' h1
  · intro l hl
    refine ⟨(g.owned l hl).1, ?_⟩
    intro r' f'' hf
    rcases getElem?_set_some hf with ⟨rfl, rfl⟩ | h1
    · rw [e]; exact (g.owned l hl).2 _ f hr
    · exact (g.owned l hl).2 r' f'' h1
  · intro r' f'' hf
    rcases getElem?_set_some hf with ⟨rfl, rfl⟩ | h1
    · have hv := p.value g (List.getElem?_eq_some_iff.mp hr).1
      simpa only [Heap.freshUni, Heap.freshLen, Heap.freshS, Heap.freshWidth, hv] using hm
    · exact g.memo_pres p _ _ h1

/-- the shape of `Heap.listExtend` and `Heap.listClear`: the list `l` becomes `F` of what it held -/
theorem step_listUpdate {h1 : Heap} (g : Good u o h) {l : Nat} (hl : l ∈ o)
    (F : List Nat → List Nat) (hF : ∀ ys, h.chunkIds ys → h.chunkIds (F ys))
    (e : (h.lists[l]?).map (fun ys => h.setList l (F ys)) = some h1) : Good u o h1 ∧ Pres h h1 := by
  obtain ⟨ys, hys, rfl⟩ := Option.map_eq_some_iff.mp e
  exact step_setList g hl (hF ys (g.listElems l ys hys))

/-- the shape of a case of `interp_checked`: `A`, the plain run of the rest, is carried along -/
theorem step_then {A : Prop} {o1 o' : List Nat} {h1 : Heap} (rest : A ∧ (Good u o1 h1 → Good u o' h' ∧ Pres h1 h'))
    (s : Good u o h → Good u o1 h1 ∧ Pres h h1) : A ∧ (Good u o h → Good u o' h' ∧ Pres h h') :=
  ⟨rest.1, fun g => ⟨(rest.2 (s g).1).1, (s g).2.trans (rest.2 (s g).1).2⟩⟩

end

theorem ck_true (p : Prop) [Decidable p] : (ck true p = true) = p := by simp [ck]

theorem ck_false (p : Prop) [Decidable p] : (ck false p = true) = True := by simp [ck]

theorem interp_checked {u : UEnv} {α : Type} (c : Cmd α) (o : List Nat) (h : Heap) (x : α × List Nat × Heap)
    (hi : interp u true c o h = some x) :
    interp u false c o h = some x ∧ (Good u o h → Good u x.2.1 x.2.2 ∧ Pres h x.2.2) := by
  induction c generalizing o h with
  | ret a =>
    cases hi
    exact ⟨rfl, fun g => ⟨g, Pres.refl h⟩⟩
  | newChunk s a k ih =>
    exact step_then (ih _ _ _ hi) fun g => step_allocChunk g s a
  | newList xs k ih =>
    simp only [interp, ck_true, ck_false, if_true] at hi ⊢
    obtain ⟨hx, hi⟩ := Option.ite_none_right_eq_some.mp hi
    exact step_then (ih _ _ _ hi) fun g => step_allocList g hx
  | newFmt l k ih =>
    simp only [interp, ck_true, ck_false, if_true] at hi ⊢
    obtain ⟨hl, hi⟩ := Option.ite_none_right_eq_some.mp hi
    obtain ⟨hlt, hi⟩ := Option.ite_none_right_eq_some.mp hi
    rw [if_pos hlt]
    exact step_then (ih _ _ _ hi) fun g => step_allocFmt g hl
  | getChunk _ k ih | getList _ k ih | getFmt _ k ih =>
    simp only [interp] at hi ⊢
    split at hi
    · exact ih _ _ _ hi
    · cases hi
  | listExtend l _ k ih | listAppend l _ k ih =>
    simp only [interp, ck_true, ck_false, if_true] at hi ⊢
    obtain ⟨hc, hi⟩ := Option.ite_none_right_eq_some.mp hi
    split at hi
    · rename_i h1 hx
      -- `l.append(x)` is `l.extend([x])`
      exact step_then (ih _ _ hi) fun g => step_listUpdate g hc.1 (· ++ _)
        (fun _ hys c hm => (List.mem_append.mp hm).elim (hys c) (hc.2 c)) hx
    · cases hi
  | listClear l k ih =>
    simp only [interp, ck_true, ck_false, if_true] at hi ⊢
    obtain ⟨hc, hi⟩ := Option.ite_none_right_eq_some.mp hi
    split at hi
    · rename_i h1 hx
      exact step_then (ih _ _ hi) fun g => step_listUpdate g hc (fun _ => []) (fun _ _ _ hm => nomatch hm) hx
    · cases hi
  | setColorStr c v k ih =>
    simp only [interp, ck_true, ck_false, if_true] at hi ⊢
    split at hi
    · rename_i y hy
      obtain ⟨hv, hi⟩ := Option.ite_none_right_eq_some.mp hi
      exact step_then (ih _ _ hi) fun g => step_setColorStr g hy hv
    · cases hi
  | setUni r v k ih =>
    simp only [interp, ck_true, ck_false, if_true] at hi ⊢
    split at hi
    · rename_i f hf
      obtain ⟨hv, hi⟩ := Option.ite_none_right_eq_some.mp hi
      exact step_then (ih _ _ hi) fun g =>
        have hm := g.fmtMemo r f hf
        step_setFmt g hf rfl ⟨fun _ e => Option.some.inj e ▸ hv, hm.2.1, hm.2.2.1, hm.2.2.2⟩
    · cases hi
  | setLen r v k ih =>
    simp only [interp, ck_true, ck_false, if_true] at hi ⊢
    split at hi
    · rename_i f hf
      obtain ⟨hv, hi⟩ := Option.ite_none_right_eq_some.mp hi
      exact step_then (ih _ _ hi) fun g =>
        have hm := g.fmtMemo r f hf
        step_setFmt g hf rfl ⟨hm.1, fun _ e => Option.some.inj e ▸ hv, hm.2.2.1, hm.2.2.2⟩
    · cases hi
  | setS r v k ih =>
    simp only [interp, ck_true, ck_false, if_true] at hi ⊢
    split at hi
    · rename_i f hf
      obtain ⟨hv, hi⟩ := Option.ite_none_right_eq_some.mp hi
      exact step_then (ih _ _ hi) fun g =>
        have hm := g.fmtMemo r f hf
        step_setFmt g hf rfl ⟨hm.1, hm.2.1, fun _ e => Option.some.inj e ▸ hv, hm.2.2.2⟩
    · cases hi
  | setWidth r v k ih =>
    simp only [interp, ck_true, ck_false, if_true] at hi ⊢
    split at hi
    · rename_i f hf
      obtain ⟨hv, hi⟩ := Option.ite_none_right_eq_some.mp hi
      exact step_then (ih _ _ hi) fun g =>
        have hm := g.fmtMemo r f hf
        step_setFmt g hf rfl ⟨hm.1, hm.2.1, hm.2.2.1, fun _ e => Option.some.inj e ▸ hv⟩
    · cases hi
  | setAtts c a k ih =>
    simp only [interp, ck_true, if_false] at hi
    split at hi <;> cases hi

theorem interp_sound {u : UEnv} {α : Type} (c : Cmd α) : ∀ (o : List Nat) (h : Heap) (a : α) (o' : List Nat) (h' : Heap),
    Good u o h → interp u true c o h = some (a, o', h') → Good u o' h' ∧ Pres h h' :=
  fun o h _ _ _ g hi => (interp_checked c o h _ hi).2 g

theorem interp_unchecked {u : UEnv} {α : Type} (c : Cmd α) (o : List Nat) (h : Heap) (x : α × List Nat × Heap)
    (hi : interp u true c o h = some x) : interp u false c o h = some x :=
  (interp_checked c o h x hi).1

theorem bind_ite {α β : Type} {c : Prop} [Decidable c] {x : Option α} {f : α → Option β} {y : Option β}
    (h : c → y = x.bind f) : (if c then y else none) = (if c then x else none).bind f := by
  split
  · exact h ‹_›
  · rfl

theorem interp_bind {u : UEnv} {chk : Bool} {α β : Type} (c : Cmd α) (k : α → Cmd β) (o : List Nat) (h : Heap) :
    interp u chk (c >>= k) o h = (interp u chk c o h).bind fun p => interp u chk (k p.1) p.2.1 p.2.2 := by
  show interp u chk (c.bind k) o h = _
  induction c generalizing o h with
  | ret a => rfl
  | newChunk s a k' ih => exact ih _ _ _
  | newList _ k' ih => exact bind_ite fun _ => ih _ _ _
  | newFmt _ k' ih => exact bind_ite fun _ => bind_ite fun _ => ih _ _ _
  | getChunk _ k' ih | getList _ k' ih | getFmt _ k' ih =>
    simp only [interp, Cmd.bind]
    split
    · exact ih _ o h
    · rfl
  | listExtend _ _ k' ih | listAppend _ _ k' ih | listClear _ k' ih =>
    simp only [interp, Cmd.bind]
    refine bind_ite fun _ => ?_
    split
    · exact ih o _
    · rfl
  | setColorStr _ _ k' ih | setUni _ _ k' ih | setLen _ _ k' ih | setS _ _ k' ih | setWidth _ _ k' ih | setAtts _ _ k' ih =>
    simp only [interp, Cmd.bind]
    split
    · exact bind_ite fun _ => ih o _
    · rfl

end Curtsies.Heap
