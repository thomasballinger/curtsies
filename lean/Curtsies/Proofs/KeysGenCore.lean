/- `KeyTables.Core` re-proved over the tables regenerated from /repo on every build, by kernel evaluation of
   `KeyTables.coreCheck`. Shared by C03 (inside `genTables_wf`) and C20. -/
import Curtsies.Model.KeysGen
import Curtsies.Proofs.KeysCore
namespace Curtsies

/- A failure after a table edit does not name the premise: `#eval` the four `&&`-conjuncts of `coreCheck` at `genTables`
   one by one. In order they stand for `nonempty`, `max_size`, `multibyte_esc`, `prefix_closed` (with
   `genTables.all.filter fun e => !(…)` for `T.all.all fun e => …` the answer is the offending entries); `prefix_sound`;
   `subset`; `curtsies_lookup`, which an entry out of ascending order fails too. -/
theorem genTables_core : genTables.Core := KeyTables.core_of_check (by decide +kernel)

end Curtsies
