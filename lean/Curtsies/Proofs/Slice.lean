/- The `__getitem__` loop is take/drop on the per-character view; `normalize_slice` on the index forms the properties
   use; `join` is Python's join on the per-character views. -/
import Curtsies.Model.FmtStr
import Curtsies.Spec.PySlice
namespace Curtsies

theorem getitemLoop_cells (start stop : Nat) (f : FmtStr) (counter : Nat) :
    cells (getitemLoop start stop counter f)
      = ((cells f).take (stop - counter)).drop (start - counter) := by
  induction f generalizing counter with
  | nil => simp [getitemLoop]
  | cons c rest ih =>
    have hn : c.cells.length = c.s.length := Chunk.cells_length c
    -- `part`, what the run `c` contributes, is its own slice
    have hpart : cells (if start < counter + c.s.length ∧ stop > counter then
          (if min (stop - counter) c.s.length - (start - counter) = c.s.length then [c]
           else [⟨(c.s.take (stop - counter)).drop (start - counter), c.atts⟩])
        else []) = (c.cells.take (stop - counter)).drop (start - counter) := by
      split
      · split
        · -- the whole run: `stop` is at or past its end and, unless it is empty, `start` at or before its start
          have hk : c.cells.length ≤ stop - counter ∧ (c.cells.length = 0 ∨ start - counter = 0) := by omega
          simp only [cells_cons, cells_nil, List.append_nil]
          rw [List.take_of_length_le hk.1]
          rcases hk.2 with hz | hz
          · rw [List.eq_nil_of_length_eq_zero hz, List.drop_nil]
          · rw [hz]; rfl
        · simp only [cells_cons, cells_nil, List.append_nil]
          exact Chunk.cells_take_drop c _ _
      · -- no part: the run ends at or before `start`, or the slice before the run
        rcases Nat.lt_or_ge counter stop with h' | h'
        · have hle : c.cells.length ≤ start - counter := by omega
          exact (List.drop_eq_nil_of_le (Nat.le_trans (List.length_take_le' ..) hle)).symm
        · rw [Nat.sub_eq_zero_of_le h', List.take_zero, List.drop_nil]; rfl
    unfold getitemLoop
    simp only []
    by_cases hb : stop < counter + c.s.length
    · -- `break`: the slice ends inside `c`
      rw [if_pos hb, hpart, cells_cons, List.take_append_of_le_length (by omega)]
    · rw [if_neg hb, cells_append, hpart, ih, cells_cons]
      have hk : c.cells.length ≤ stop - counter := by omega
      rw [List.take_append, List.take_of_length_le hk, List.drop_append, hn, Nat.sub_add_eq, Nat.sub_add_eq]

theorem cells_emptyFmt : cells emptyFmt = [] := rfl

theorem getslice_cells (f : FmtStr) (s e : Nat) :
    cells (getslice f s e) = ((cells f).take e).drop s := by
  have hloop : cells (getitemLoop s e 0 f) = ((cells f).take e).drop s := getitemLoop_cells s e f 0
  unfold getslice
  simp only []
  by_cases h : (getitemLoop s e 0 f).isEmpty
  · -- no part was collected: the result is `fmtstr("")`, and the slice of the cells is empty as well
    rw [if_pos h, cells_emptyFmt, ← hloop, List.isEmpty_iff.mp h]
    rfl
  · rw [if_neg h, hloop]

theorem len_getslice (f : FmtStr) (s e : Nat) : len (getslice f s e) = min e (len f) - s := by
  rw [← cells_length, getslice_cells, List.length_drop, List.length_take, cells_length]

theorem getslice_text (f : FmtStr) (s e : Nat) :
    text (getslice f s e) = ((text f).take e).drop s := by
  rw [text_eq_cells, getslice_cells, text_eq_cells, List.map_drop, List.map_take]

theorem normalizeSlice_nat (L a b : Nat) :
    normalizeSlice L (.slice (some (a : Int)) (some (b : Int))) = .ok (a, b) := by
  have h : ∀ n : Nat, ¬ ((n : Int) < 0) := fun n => by omega
  simp only [normalizeSlice, Option.getD_some, if_neg (h _), Int.toNat_natCast]
  rfl

theorem normalizeSlice_int (L : Nat) (i : Int) :
    normalizeSlice L (.int i) =
      if 0 ≤ i ∧ i < L then .ok (i.toNat, i.toNat + 1)
      else if i < 0 ∧ -(L:Int) ≤ i then .ok (((L:Int) + i).toNat, ((L:Int) + i).toNat + 1)
      else .error .indexError := by
  unfold normalizeSlice
  simp only []
  -- `grind` splits on the sign of `i` and on the range test; in range `0 ≤ start` and `stop = start + 1`, so neither
  -- clamp applies
  grind

theorem normalizeSlice_int_of_lt (L i : Nat) (h : i < L) : normalizeSlice L (.int (i : Int)) = .ok (i, i + 1) := by
  rw [normalizeSlice_int, if_pos ⟨by omega, by omega⟩]; rfl

theorem take_drop_clamp (l : List α) (s e : Nat) :
    (l.take e).drop s = (l.take (min e l.length)).drop (min s l.length) := by
  rw [← List.take_eq_take_min]
  rcases Nat.le_total s l.length with h | h
  · rw [Nat.min_eq_left h]
  · rw [Nat.min_eq_right h, List.drop_eq_nil_of_le (by rw [List.length_take]; omega),
      List.drop_eq_nil_of_le (by rw [List.length_take]; omega)]

theorem take_succ_drop (l : List α) (k : Nat) (h : k < l.length) : (l.take (k+1)).drop k = [l[k]] := by
  rw [List.take_succ_eq_append_getElem h, List.drop_left' (List.length_take_of_le (by omega))]

theorem mapM_ok {f : α → Except ε β} {g : α → β} (l : List α) (h : ∀ x ∈ l, f x = .ok (g x)) :
    l.mapM f = .ok (l.map g) := by
  induction l with
  | nil => rfl
  | cons x xs ih =>
    rw [List.mapM_cons, h x (List.mem_cons_self ..), ih fun y hy => h y (List.mem_cons_of_mem _ hy)]
    rfl

theorem cells_addStr (f : FmtStr) (t : Text) : cells (addStr f t) = cells f ++ plainCells t := by
  simp [addStr, plainCells, Chunk.cells]
theorem cells_raddStr (f : FmtStr) (t : Text) : cells (raddStr f t) = plainCells t ++ cells f := by
  simp [raddStr, plainCells, Chunk.cells]

theorem join_cells (sep : FmtStr) (items : List FmtStr) :
    cells (join sep items) = Spec.pyJoin (cells sep) (items.map cells) := by
  unfold join
  cases items with
  | nil => simp [joinLoop, Spec.pyJoin]
  | cons x xs =>
    simp only [joinLoop, List.nil_append]
    induction xs generalizing x with
    | nil => simp [joinLoop, Spec.pyJoin]
    | cons y ys ih =>
      have := ih y
      simp only [List.map_cons, cells_append] at this
      simp only [joinLoop, cells_append, List.map_cons, Spec.pyJoin, this, List.append_assoc]

end Curtsies
