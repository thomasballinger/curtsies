/-
  Every operation of the heap model (Model/Heap.lean) passes the checked interpreter, for C13.

  The triple `Passes u c o h R`: from a good state `(o, h)` the command `c` passes the checked interpreter, the
  invariant holds again, the end state frames the start (`Frame`), and `R` holds of the outcome. A continuation of
  `Passes.bind` is handed the `Frame`, along which assertions in value form are carried. `X_val`: the operation passes
  and its result holds the value the value-level model computes (for a read: a rule for `X >>= k` that hands `k` what
  was read); `X_ok` (operations whose results are data of the call): it passes and its results exist.

  Three things share a name. `Heap.add a b` (`Heap.splice`, `Heap.joinLoop`, …; Model/Heap.lean) is the COMMAND, on
  references. `Curtsies.add va vb` (Model/FmtStr.lean, Model/Width.lean) is the value-level function on run lists that
  the command is shown to compute. The structure `Heap` lives in the namespace `Heap`, so what belongs to a heap `h` is
  `Curtsies.Heap.Heap.*`: `h.value r`, and the update `Heap.Heap.listExtend h l xs` that the command
  `Heap.listExtend l xs` performs.
-/
import Curtsies.Proofs.HeapInterp
namespace Curtsies.Heap
open Curtsies

/-! ### the vocabulary of the statements in Properties/C13.lean -/

/-- every FmtStr the call is made on or is handed (the receiver, an operand, an item of `join`) is an object of `h` -/
def opLive (h : Heap) (op : Op) : Prop := ∀ r, r ∈ opRefs op → r < h.fmts.length

def argLive (h : Heap) : Arg → Prop
  | .ref r => r < h.fmts.length
  | .str _ => True

/-- the value of a `str`-or-FmtStr operand: an ESC-free `str` converts to one unformatted run -/
def argVal (h : Heap) : Arg → Option FmtStr
  | .ref r => h.value r
  | .str t => some [⟨t, {}⟩]

/-- every FmtStr the call returns is an object of `h`; a `str`, a number, an exception name no object -/
def resLive (h : Heap) : Res → Prop
  | .refs rs => ∀ r, r ∈ rs → r < h.fmts.length
  | _ => True

/-- `c` passes the checked interpreter from `(o, h)`, and `Q` holds of its result and end state -/
def Ok (u : UEnv) {α : Type} (c : Cmd α) (o : List Nat) (h : Heap) (Q : α → List Nat → Heap → Prop) : Prop :=
  ∃ a o' h', interp u true c o h = some (a, o', h') ∧ Q a o' h'

variable {u : UEnv}

theorem Ok.mono {α : Type} {c : Cmd α} {o : List Nat} {h : Heap} {P Q : α → List Nat → Heap → Prop}
    (h1 : Ok u c o h P) (h2 : ∀ a o' h', P a o' h' → Q a o' h') : Ok u c o h Q := by
  obtain ⟨a, o', h', e, hp⟩ := h1
  exact ⟨a, o', h', e, h2 _ _ _ hp⟩

theorem Ok.pure {α : Type} {a : α} {o : List Nat} {h : Heap} {Q : α → List Nat → Heap → Prop} (hq : Q a o h) :
    Ok u (Pure.pure a : Cmd α) o h Q := ⟨a, o, h, rfl, hq⟩

theorem Ok.bind {α β : Type} {c : Cmd α} {k : α → Cmd β} {o : List Nat} {h : Heap} {P : α → List Nat → Heap → Prop}
    {Q : β → List Nat → Heap → Prop} (h1 : Ok u c o h P) (h2 : ∀ a o' h', P a o' h' → Ok u (k a) o' h' Q) :
    Ok u (c >>= k) o h Q := by
  obtain ⟨a, o', h', e, hp⟩ := h1
  obtain ⟨b, o'', h'', e2, hq⟩ := h2 _ _ _ hp
  exact ⟨b, o'', h'', by rw [interp_bind, e]; exact e2, hq⟩

/-- how the state moved, as a continuation of `Passes.bind` sees it: `Pres`, and every list the caller owned is still owned.
    A command that publishes a list its caller owns (a bare `newFmt l` takes `l` out of `o`) therefore has no `Passes` triple;
    its rule is `newFmt_ok`, on `Ok`. Every operation publishes through `mkFmt`, which allocates the list it publishes. -/
structure Frame (o : List Nat) (h : Heap) (o' : List Nat) (h' : Heap) : Prop extends Pres h h' where
  own : ∀ {l : Nat}, l ∈ o → l ∈ o'

theorem Frame.trans {o1 o2 o3 : List Nat} {a b c : Heap} (h1 : Frame o1 a o2 b) (h2 : Frame o2 b o3 c) : Frame o1 a o3 c :=
  ⟨h1.toPres.trans h2.toPres, fun m => h2.own (h1.own m)⟩

def Passes (u : UEnv) {α : Type} (c : Cmd α) (o : List Nat) (h : Heap) (R : α → List Nat → Heap → Prop) : Prop :=
  Good u o h → Ok u c o h fun a o' h' => Good u o' h' ∧ Frame o h o' h' ∧ R a o' h'

theorem Passes.pure {α : Type} {a : α} {o : List Nat} {h : Heap} {R : α → List Nat → Heap → Prop} (hr : R a o h) :
    Passes u (Pure.pure a : Cmd α) o h R := fun g => Ok.pure ⟨g, ⟨Pres.refl h, id⟩, hr⟩

theorem Passes.good {α : Type} {c : Cmd α} {o : List Nat} {h : Heap} {R : α → List Nat → Heap → Prop}
    (hk : Good u o h → Passes u c o h R) : Passes u c o h R := fun g => hk g g

theorem Passes.bind {α β : Type} {c : Cmd α} {k : α → Cmd β} {o : List Nat} {h : Heap}
    {R1 : α → List Nat → Heap → Prop} {R : β → List Nat → Heap → Prop} (h1 : Passes u c o h R1)
    (h2 : ∀ a o' h', Frame o h o' h' → R1 a o' h' → Passes u (k a) o' h' R) :
    Passes u (c >>= k) o h R := by
  intro g
  refine Ok.bind (h1 g) fun a o' h' ⟨g1, p1, r1⟩ => Ok.mono (h2 a o' h' p1 r1 g1) ?_
  exact fun b o'' h'' ⟨g2, p2, r⟩ => ⟨g2, p1.trans p2, r⟩

/-- a read leaves `(o, h)` where it is: nothing has to be carried across it -/
theorem Passes.read {α β : Type} {c : Cmd α} {k : α → Cmd β} {o : List Nat} {h : Heap} {x : α}
    {R : β → List Nat → Heap → Prop} (e : interp u true c o h = some (x, o, h)) (hk : Passes u (k x) o h R) :
    Passes u (c >>= k) o h R := by
  intro g
  obtain ⟨b, o', h', e2, q⟩ := hk g
  exact ⟨b, o', h', by rw [interp_bind, e]; exact e2, q⟩

theorem Passes.mono {α : Type} {c : Cmd α} {o : List Nat} {h : Heap} {R R' : α → List Nat → Heap → Prop}
    (h1 : Passes u c o h R) (h2 : ∀ a o' h', R a o' h' → R' a o' h') : Passes u c o h R' :=
  fun g => Ok.mono (h1 g) fun a o' h' ⟨g', p, r⟩ => ⟨g', p, h2 a o' h' r⟩

theorem Passes.map {α β : Type} {c : Cmd α} {o : List Nat} {h : Heap} {R : α → List Nat → Heap → Prop} (f : α → β)
    (hc : Passes u c o h R) :
    Passes u (c >>= fun x => Pure.pure (f x)) o h fun y o' h' => ∃ x, y = f x ∧ R x o' h' :=
  Passes.bind hc fun x _ _ _ hx => Passes.pure ⟨x, rfl, hx⟩

/-- the one door from `interp_sound` into the triple: `R` may be shown from what `interp_sound` gives of the end state -/
theorem Passes.of_run {α : Type} {c : Cmd α} {o o' : List Nat} {h h' : Heap} {a : α} {R : α → List Nat → Heap → Prop}
    (e : interp u true c o h = some (a, o', h')) (sub : ∀ l, l ∈ o → l ∈ o')
    (hr : Good u o' h' → Pres h h' → R a o' h') : Passes u c o h R := by
  intro g
  have := interp_sound c o h a o' h' g e
  exact ⟨a, o', h', e, this.1, ⟨this.2, sub _⟩, hr this.1 this.2⟩

/-- `Passes.of_run` for a write -/
theorem Passes.step {c : Cmd Unit} {o : List Nat} {h h' : Heap} (e : interp u true c o h = some ((), o, h')) :
    Passes u c o h fun _ _ _ => True :=
  Passes.of_run e (fun _ m => m) fun _ _ => trivial

-- from here on `(o, h)` is the state a triple starts from
variable {o : List Nat} {h : Heap}

theorem newChunk_val (s : Text) (a : Atts) :
    Passes u (newChunk s a) o h fun c _ h' => h'.chunkVal c = some ⟨s, a⟩ :=
  Passes.of_run (a := h.chunks.length) (o' := o) (h' := h.allocChunk s a) (by simp [newChunk, interp]) (fun _ m => m)
    (fun _ _ => by simp [Heap.chunkVal, Heap.allocChunk, ChunkObj.val])

theorem newList_val {xs : List Nat} {v : FmtStr} (hx : h.valsOf xs = some v) :
    Passes u (newList xs) o h fun l o' h' => l ∈ o' ∧ h'.listVal l = some v :=
  Passes.of_run (a := h.lists.length) (o' := h.lists.length :: o) (h' := h.allocList xs)
    (by simp [newList, interp, ck, valsOf_ids hx]) (fun _ m => List.mem_cons_of_mem _ m)
    (fun _ p => ⟨List.mem_cons_self, by simpa [Heap.listVal, Heap.allocList] using p.valsOf_some hx⟩)

theorem mkFmt_val {cs : List Nat} {v : FmtStr} (hv : h.valsOf cs = some v) :
    Passes u (mkFmt cs) o h fun r _ h' => h'.value r = some v := by
  refine Passes.good fun g => ?_
  have hx := valsOf_ids hv
  refine Passes.of_run (a := h.fmts.length) (o' := (h.lists.length :: o).filter (· ≠ h.lists.length))
    (h' := (h.allocList cs).allocFmt h.lists.length) ?_ ?_ ?_
  · simp [mkFmt, bind, Cmd.bind, newList, newFmt, interp, ck, hx, Heap.allocList, Heap.allocFmt]
  · intro l hl
    simpa [List.mem_filter, hl] using Nat.ne_of_lt (g.owned l hl).1
  · intro _ p
    rw [← p.valsOf_some hv]
    simp [Heap.value, Heap.listVal, Heap.allocFmt, Heap.allocList]

/-- `newFmt l` by itself publishes the owned list `l` as it stands, and the owned lists in `keep` stay owned: the rule for a
    command that fills a list and then hands it to a FmtStr. No operation does (`FmtStr.__init__` copies its argument). -/
theorem newFmt_ok {u : UEnv} {o h} (g : Good u o h) {l : Nat} (hl : l ∈ o) (keep : List Nat) (hk : ∀ x, x ∈ keep → x ∈ o ∧ x ≠ l) :
    Ok u (newFmt l) o h (fun r o' h' => Good u o' h' ∧ Pres h h' ∧ (∀ x, x ∈ keep → x ∈ o') ∧ r < h'.fmts.length) := by
  have e : interp u true (newFmt l) o h = some (h.fmts.length, o.filter (· ≠ l), h.allocFmt l) := by
    simp [newFmt, interp, ck, hl, (g.owned l hl).1]
  have := interp_sound _ o h _ _ _ g e
  refine ⟨_, _, _, e, this.1, this.2, ?_, by simp [Heap.allocFmt]⟩
  intro x hx
  simp [List.mem_filter, hk x hx]

theorem listExtend_val {l : Nat} (hl : l ∈ o) {xs : List Nat} {vx vy : FmtStr}
    (hx : h.valsOf xs = some vx) (hy : h.listVal l = some vy) :
    Passes u (listExtend l xs) o h fun _ _ h' => h'.listVal l = some (vy ++ vx) ∧
      ∀ {l' w}, l' ≠ l → h.listVal l' = some w → h'.listVal l' = some w := by
  obtain ⟨ys, hys, hy⟩ := Option.bind_eq_some_iff.mp hy
  refine Passes.of_run (a := ()) (o' := o) (h' := h.setList l (ys ++ xs)) ?_ (fun _ m => m) fun _ p =>
    ⟨?_, fun hne => p.listVal_some (List.getElem?_set_ne (fun e => hne e.symm))⟩
  · simp [listExtend, interp, ck, hl, valsOf_ids hx, Heap.Heap.listExtend, hys]
  · simp only [Heap.listVal, Heap.setList, List.getElem?_set_self (List.getElem?_eq_some_iff.mp hys).1, Option.bind_some]
    exact valsOf_append (p.valsOf_some hy) (p.valsOf_some hx)

theorem listAppend_ok {l : Nat} (hl : l ∈ o) {x : Nat} (hx : x < h.chunks.length) :
    Passes u (listAppend l x) o h fun _ _ _ => True := by
  refine Passes.good fun g => ?_
  have hlt := (g.owned l hl).1
  have hx' : h.chunkIds [x] := fun c hm => List.mem_singleton.mp hm ▸ hx
  exact Passes.step (h' := h.setList l (h.lists[l] ++ [x]))
    (by simp [listAppend, interp, ck, hl, hx', Heap.Heap.listAppend, Heap.Heap.listExtend, List.getElem?_eq_getElem hlt])

theorem listClear_ok {l : Nat} (hl : l ∈ o) :
    Passes u (listClear l) o h fun _ _ _ => True := by
  refine Passes.good fun g => ?_
  have hlt := (g.owned l hl).1
  exact Passes.step (h' := h.setList l [])
    (by simp [listClear, interp, ck, hl, Heap.Heap.listClear, List.getElem?_eq_getElem hlt])

theorem setUni_ok {r : Nat} (hr : r < h.fmts.length) {v : Text} (hv : h.freshUni r v) :
    Passes u (setUni r v) o h fun _ _ _ => True :=
  Passes.step (h' := h.setFmt r { h.fmts[r] with uni := some v })
    (by simp [setUni, interp, List.getElem?_eq_getElem hr, ck, hv])

theorem setLen_ok {r : Nat} (hr : r < h.fmts.length) {v : Nat} (hv : h.freshLen r v) :
    Passes u (setLen r v) o h fun _ _ _ => True :=
  Passes.step (h' := h.setFmt r { h.fmts[r] with len := some v })
    (by simp [setLen, interp, List.getElem?_eq_getElem hr, ck, hv])

theorem setS_ok {r : Nat} (hr : r < h.fmts.length) {v : Text} (hv : h.freshS r v) :
    Passes u (setS r v) o h fun _ _ _ => True :=
  Passes.step (h' := h.setFmt r { h.fmts[r] with s := some v })
    (by simp [setS, interp, List.getElem?_eq_getElem hr, ck, hv])

theorem setWidth_ok {r : Nat} (hr : r < h.fmts.length) {v : Int} (hv : h.freshWidth u r v) :
    Passes u (setWidth r v) o h fun _ _ _ => True :=
  Passes.step (h' := h.setFmt r { h.fmts[r] with width := some v })
    (by simp [setWidth, interp, List.getElem?_eq_getElem hr, ck, hv])

theorem chunkVals_run {chk : Bool} {cs : List Nat} {v : FmtStr} (hv : h.valsOf cs = some v) :
    ∃ vs, interp u chk (chunkVals cs) o h = some (vs, o, h) ∧ vs.map Prod.snd = v ∧
      ∀ p, p ∈ vs → h.chunkVal p.1 = some p.2 := by
  induction cs generalizing v with
  | nil => cases (Option.some.inj hv : [] = v); exact ⟨[], rfl, rfl, fun _ hp => nomatch hp⟩
  | cons c cs ih =>
    obtain ⟨cv, w, h1, h2, rfl⟩ := valsOf_cons.mp hv
    obtain ⟨vs, e, e2, e3⟩ := ih h2
    obtain ⟨x, hx, ex⟩ := Option.map_eq_some_iff.mp h1
    refine ⟨(c, cv) :: vs, ?_, by rw [List.map_cons, e2], List.forall_mem_cons.mpr ⟨h1, e3⟩⟩
    simp only [chunkVals, interp_bind, getChunk, interp, hx, Option.bind_some, e, ex]
    rfl

theorem getFmt_val {β : Type} {r : Nat} {v : FmtStr} (hv : h.value r = some v) {k : FmtObj → Cmd β}
    {R : β → List Nat → Heap → Prop}
    (hk : ∀ f, h.fmts[r]? = some f → h.listVal f.chunks = some v → Passes u (k f) o h R) :
    Passes u (getFmt r >>= k) o h R := by
  obtain ⟨f, hf, hl⟩ := Option.bind_eq_some_iff.mp hv
  exact Passes.read (x := f) (by simp [getFmt, interp, hf]) (hk f hf hl)

theorem getList_val {β : Type} {l : Nat} {v : FmtStr} (hv : h.listVal l = some v) {k : List Nat → Cmd β}
    {R : β → List Nat → Heap → Prop} (hk : ∀ cs, h.valsOf cs = some v → Passes u (k cs) o h R) :
    Passes u (getList l >>= k) o h R := by
  obtain ⟨cs, hl, hcs⟩ := Option.bind_eq_some_iff.mp hv
  exact Passes.read (x := cs) (by simp [getList, interp, hl]) (hk cs hcs)

theorem contents_val {β : Type} {r : Nat} {v : FmtStr} (hv : h.value r = some v) {k : List Nat → Cmd β}
    {R : β → List Nat → Heap → Prop} (hk : ∀ cs, h.valsOf cs = some v → Passes u (k cs) o h R) :
    Passes u (contents r >>= k) o h R :=
  getFmt_val hv fun _ _ hl => getList_val hl hk

theorem chunkVals_val {β : Type} {cs : List Nat} {v : FmtStr} (hv : h.valsOf cs = some v)
    {k : List (Nat × Chunk) → Cmd β} {R : β → List Nat → Heap → Prop}
    (hk : ∀ vs, vs.map Prod.snd = v → (∀ p, p ∈ vs → h.chunkVal p.1 = some p.2) → Passes u (k vs) o h R) :
    Passes u (chunkVals cs >>= k) o h R := by
  obtain ⟨vs, e, e2, e3⟩ := chunkVals_run (u := u) (chk := true) (o := o) hv
  exact Passes.read e (hk vs e2 e3)

theorem chunkColorStr_val {c : Nat} {cv : Chunk} (hc : h.chunkVal c = some cv) :
    Passes u (chunkColorStr c) o h fun x _ _ => x = Chunk.colorStr cv := by
  refine Passes.good fun g => ?_
  obtain ⟨x, hx, rfl⟩ := Option.map_eq_some_iff.mp hc
  cases hm : x.colorStr with
  | some v =>
    refine Passes.of_run (a := v) (o' := o) (h' := h) ?_ (fun _ m => m) fun _ _ => g.chunkMemo c x hx v hm
    simp [chunkColorStr, interp_bind, getChunk, interp, hx, hm]; rfl
  | none =>
    refine Passes.of_run (a := Chunk.colorStr x.val) (o' := o)
      (h' := h.setChunk c { x with colorStr := some (Chunk.colorStr x.val) }) ?_ (fun _ m => m) fun _ _ => rfl
    simp [chunkColorStr, interp_bind, getChunk, interp, hx, hm, setColorStr, ck]; rfl

theorem colorStrs_val {o : List Nat} {h : Heap} {cs : List Nat} {v : FmtStr} (hv : h.valsOf cs = some v) :
    Passes u (colorStrs cs) o h fun parts _ _ => parts = v.map Chunk.colorStr := by
  induction cs generalizing o h v with
  | nil => cases (Option.some.inj hv : [] = v); exact Passes.pure rfl
  | cons c cs ih =>
    obtain ⟨cv, vs, h1, h2, rfl⟩ := valsOf_cons.mp hv
    refine Passes.bind (chunkColorStr_val h1) fun x o' h' p' hx => ?_
    refine Passes.bind (ih (p'.valsOf_some h2)) fun parts o'' h'' _ hparts => Passes.pure ?_
    rw [hx, hparts]; rfl

theorem obsStr_val {r : Nat} {v : FmtStr} (hv : h.value r = some v) :
    Passes u (obsStr r) o h fun x _ _ => x = render v := by
  unfold obsStr
  refine getFmt_val hv fun f hf hl => ?_
  cases hm : f.uni with
  | some x => exact Passes.good fun g => Passes.pure ((freshUni_iff hv).mp ((g.fmtMemo r f hf).1 x hm))
  | none =>
    refine getList_val hl fun cs hcs => ?_
    refine Passes.bind (colorStrs_val hcs) fun parts o' h' p' hparts => ?_
    have hx : parts.flatten = render v := by rw [hparts]; simp [render, List.flatMap]
    have hv' := p'.value_some hv
    exact Passes.bind (setUni_ok (value_lt hv') ((freshUni_iff hv').mpr hx)) fun _ _ _ _ _ => Passes.pure hx

theorem obsLen_val {r : Nat} {v : FmtStr} (hv : h.value r = some v) :
    Passes u (obsLen r) o h fun n _ _ => n = len v := by
  unfold obsLen
  refine getFmt_val hv fun f hf hl => ?_
  cases hm : f.len with
  | some n => exact Passes.good fun g => Passes.pure ((freshLen_iff hv).mp ((g.fmtMemo r f hf).2.1 n hm))
  | none =>
    refine getList_val hl fun cs hcs => chunkVals_val hcs fun vs e _ => ?_
    subst e
    have hn : (vs.map fun p => p.2.s.length).sum = len (vs.map Prod.snd) := by
      simp [len, List.map_map, Function.comp_def]
    exact Passes.bind (setLen_ok (value_lt hv) ((freshLen_iff hv).mpr hn)) fun _ _ _ _ _ => Passes.pure hn

theorem obsS_val {r : Nat} {v : FmtStr} (hv : h.value r = some v) :
    Passes u (obsS r) o h fun t _ _ => t = text v := by
  unfold obsS
  refine getFmt_val hv fun f hf hl => ?_
  cases hm : f.s with
  | some t => exact Passes.good fun g => Passes.pure ((freshS_iff hv).mp ((g.fmtMemo r f hf).2.2.1 t hm))
  | none =>
    refine getList_val hl fun cs hcs => chunkVals_val hcs fun vs e _ => ?_
    subst e
    have ht : (vs.map fun p => p.2.s).flatten = text (vs.map Prod.snd) := by
      simp [text, List.flatMap, List.map_map, Function.comp_def]
    exact Passes.bind (setS_ok (value_lt hv) ((freshS_iff hv).mpr ht)) fun _ _ _ _ _ => Passes.pure ht

theorem obsWidth_val {r : Nat} {v : FmtStr} (hv : h.value r = some v) :
    Passes u (obsWidth u r) o h fun res _ _ => res = fmtWidth u v := by
  unfold obsWidth
  refine getFmt_val hv fun f hf hl => ?_
  cases hm : f.width with
  | some w => exact Passes.good fun g => Passes.pure ((freshWidth_iff hv).mp ((g.fmtMemo r f hf).2.2.2 w hm)).symm
  | none =>
    refine getList_val hl fun cs hcs => chunkVals_val hcs fun vs e _ => ?_
    subst e
    cases hw : fmtWidth u (vs.map Prod.snd) with
    | error e => exact Passes.pure rfl
    | ok w =>
      exact Passes.bind (setWidth_ok (value_lt hv) ((freshWidth_iff hv).mpr hw)) fun _ _ _ _ _ => Passes.pure rfl

/-! `getitemParts` / `spliceParts` / `wasParts` are `getitemLoop` / `spliceLoop` / `wasChunkLoop` (the models of
  C06, C09, C10) that also record which run objects are reused. Each pair branches on the same tests and is walked
  in lockstep (`ite_both`), once, for any property `P` that the pairs (run object, its value) handed in have. With the
  trivial `P` the walk says that erasing the record gives the value-level loop back (`getitemParts_val`, …, no heap);
  with `h.chunkVal c = some x`, that the record is true in `h` as well (`partsTrue`). -/

section
variable {P : Nat → Chunk → Prop}

/-- the parts `ps` make up `v`, and every reused run object, with the value recorded for it, has `P` -/
def PartsOf (P : Nat → Chunk → Prop) (ps : List Part) (v : FmtStr) : Prop :=
  ps.map Part.val = v ∧ ∀ c x, Part.shared c x ∈ ps → P c x

theorem PartsOf.nil : PartsOf P [] [] := ⟨rfl, fun _ _ hm => nomatch hm⟩

theorem PartsOf.shared {id : Nat} {c : Chunk} (hc : P id c) : PartsOf P [.shared id c] [c] := by
  refine ⟨rfl, fun c' v hm => ?_⟩
  cases List.mem_singleton.mp hm
  exact hc

theorem PartsOf.fresh (x : Chunk) : PartsOf P [.fresh x] [x] :=
  ⟨rfl, fun _ _ hm => nomatch List.mem_singleton.mp hm⟩

theorem PartsOf.append {a b : List Part} {v w : FmtStr} (ha : PartsOf P a v) (hb : PartsOf P b w) :
    PartsOf P (a ++ b) (v ++ w) :=
  ⟨by rw [List.map_append, ha.1, hb.1], fun c x hm => (List.mem_append.mp hm).elim (ha.2 c x) (hb.2 c x)⟩

theorem PartsOf.filter {ps : List Part} {v : FmtStr} (hp : PartsOf P ps v) (q : Chunk → Bool) :
    PartsOf P (ps.filter fun p => q p.val) (v.filter q) :=
  ⟨by rw [← hp.1, List.filter_map]; rfl, fun c x hm => hp.2 c x (List.mem_filter.mp hm).1⟩

theorem ite_both {α β : Type} {R : α → β → Prop} {c : Prop} [Decidable c] {x x' : α} {y y' : β}
    (h1 : c → R x y) (h2 : ¬ c → R x' y') : R (if c then x else x') (if c then y else y') := by
  split
  · exact h1 ‹_›
  · exact h2 ‹_›

theorem getitemParts_spec (start stop : Nat) (vs : List (Nat × Chunk)) (hvs : ∀ p, p ∈ vs → P p.1 p.2) (counter : Nat) :
    PartsOf P (getitemParts start stop counter vs) (getitemLoop start stop counter (vs.map Prod.snd)) := by
  induction vs generalizing counter with
  | nil => exact .nil
  | cons p vs ih =>
    obtain ⟨id, c⟩ := p
    obtain ⟨hc, hvs⟩ := List.forall_mem_cons.mp hvs
    -- what this run contributes: the run object itself or one new run
    have part {A B : Prop} [Decidable A] [Decidable B] {x : Chunk} :
        PartsOf P (if A then if B then [Part.shared id c] else [.fresh x] else []) (if A then if B then [c] else [x] else []) :=
      ite_both (fun _ => ite_both (fun _ => .shared hc) fun _ => .fresh x) fun _ => .nil
    simp only [getitemParts, getitemLoop, List.map_cons]
    exact ite_both (fun _ => part) fun _ => part.append (ih hvs _)

theorem getitemParts_val (start stop : Nat) (vs : List (Nat × Chunk)) (counter : Nat) :
    (getitemParts start stop counter vs).map Part.val = getitemLoop start stop counter (vs.map Prod.snd) :=
  (getitemParts_spec (P := fun _ _ => True) start stop vs (fun _ _ => trivial) counter).1

/-- `X` is a run of `spliceParts` whose reused runs have `P`, `Y` the run of `spliceLoop` it stands for -/
def Mirror (P : Nat → Chunk → Prop) (X : List Part × Bool) (Y : FmtStr × Bool) : Prop :=
  ∃ ps v ins, X = (ps, ins) ∧ Y = (v, ins) ∧ PartsOf P ps v

/-- the shape both loops' `let (r, i) := …; (pre ++ r, i)` have -/
theorem Mirror.pre {X Y} (m : Mirror P X Y) {pre : List Part} {pre' : FmtStr} (hp : PartsOf P pre pre') :
    Mirror P (match X with | (r, i) => (pre ++ r, i)) (match Y with | (r, i) => (pre' ++ r, i)) := by
  obtain ⟨ps, v, ins, rfl, rfl, ht⟩ := m
  exact ⟨_, _, ins, rfl, rfl, hp.append ht⟩

theorem spliceParts_spec {new : List Part} {nv : FmtStr} (hnew : PartsOf P new nv) (start end_ : Nat)
    (vs : List (Nat × Chunk)) (hvs : ∀ p, p ∈ vs → P p.1 p.2) (b : Nat) (i : Bool) :
    Mirror P (spliceParts new start end_ b i vs) (spliceLoop nv start end_ b i (vs.map Prod.snd)) := by
  induction vs generalizing b i with
  | nil => exact ⟨_, _, i, rfl, rfl, .nil⟩
  | cons p vs ih =>
    obtain ⟨id, c⟩ := p
    obtain ⟨hc, hvs⟩ := List.forall_mem_cons.mp hvs
    have hc : PartsOf P [.shared id c] [c] := .shared hc
    have ih := ih hvs (b + c.s.length)
    simp only [spliceParts, spliceLoop, List.map_cons]
    -- `end == bfs_start == 0 and not inserted`: `new`'s runs, then `bfs` itself
    refine ite_both (fun _ => (ih true).pre (hnew.append hc)) fun _ => ?_
    -- `not inserted and bfs_start <= start < bfs_end`: `head`, `new`'s runs, and `tail` if `end < bfs_end`
    refine ite_both (fun _ => (ih true).pre
      (((PartsOf.fresh _).append hnew).append (ite_both (fun _ => .fresh _) fun _ => .nil))) fun _ => ?_
    -- `bfs_start < end < bfs_end`: `tail`
    refine ite_both (fun _ => (ih i).pre (.fresh _)) fun _ => ?_
    -- `bfs_start >= end or bfs_end <= start`: `bfs` itself; a run inside the replaced stretch contributes nothing
    exact ite_both (fun _ => (ih i).pre hc) fun _ => ih i

theorem spliceParts_val (new : List Part) (start end_ : Nat) (vs : List (Nat × Chunk)) (bfsStart : Nat) (inserted : Bool) :
    ((spliceParts new start end_ bfsStart inserted vs).1.map Part.val, (spliceParts new start end_ bfsStart inserted vs).2)
      = spliceLoop (new.map Part.val) start end_ bfsStart inserted (vs.map Prod.snd) := by
  obtain ⟨ps, _, ins, e1, e2, rfl, -⟩ := spliceParts_spec (P := fun _ _ => True) (new := new) ⟨rfl, fun _ _ _ => trivial⟩
    start end_ vs (fun _ _ => trivial) bfsStart inserted
  rw [e1, e2]

/-- the same for a loop that can fail: both fail alike, or `PartsOf` -/
inductive MirrorE (P : Nat → Chunk → Prop) : Except PyErr (List Part) → Except PyErr FmtStr → Prop
  | error (e : PyErr) : MirrorE P (.error e) (.error e)
  | ok {ps : List Part} {v : FmtStr} : PartsOf P ps v → MirrorE P (.ok ps) (.ok v)

theorem MirrorE.val {X : Except PyErr (List Part)} {Y : Except PyErr FmtStr} (m : MirrorE P X Y) :
    X.map (List.map Part.val) = Y := by
  cases m with
  | error e => rfl
  | ok hp => exact congrArg Except.ok hp.1

theorem wasPart_spec (start stop counter cw : Int) {id : Nat} {c : Chunk} (hc : P id c) :
    MirrorE P (wasPart u start stop counter id c cw) (wasChunkPart u start stop counter c cw) := by
  simp only [wasPart, wasChunkPart]
  refine ite_both (fun _ => ite_both (fun _ => .ok (.shared hc)) fun _ => ?_) fun _ => .ok .nil
  cases widthAwareSliceStr u c.s (max 0 (start - counter)) (stop - counter) with
  | error e => exact .error e
  | ok s => exact .ok (.fresh _)

theorem wasPart_val (u : UEnv) (start stop counter : Int) (id : Nat) (c : Chunk) (cw : Int) :
    (wasPart u start stop counter id c cw).map (List.map Part.val) = wasChunkPart u start stop counter c cw :=
  (wasPart_spec (P := fun _ _ => True) start stop counter cw trivial).val

theorem wasParts_spec (start stop : Int) (vs : List (Nat × Chunk)) (hvs : ∀ p, p ∈ vs → P p.1 p.2) (counter : Int) :
    MirrorE P (wasParts u start stop counter vs) (wasChunkLoop u start stop counter (vs.map Prod.snd)) := by
  induction vs generalizing counter with
  | nil => exact .ok .nil
  | cons p vs ih =>
    obtain ⟨id, c⟩ := p
    simp only [wasParts, wasChunkLoop, List.map_cons, bind, Except.bind]
    cases chunkWidth u c with
    | error e => exact .error e
    | ok cw =>
      obtain ⟨hc, hvs⟩ := List.forall_mem_cons.mp hvs
      have hp := wasPart_spec (u := u) start stop counter cw hc
      have ih := ih hvs (counter + cw)
      dsimp only
      generalize wasPart .. = X, wasChunkPart .. = Y at hp ⊢
      cases hp with
      | error e => exact .error e
      | ok hp =>
        refine ite_both (fun _ => .ok hp) fun _ => ?_
        generalize wasParts .. = X, wasChunkLoop .. = Y at ih ⊢
        cases ih with
        | error e => exact .error e
        | ok hr => exact .ok (hp.append hr)

theorem wasParts_val (u : UEnv) (start stop : Int) (vs : List (Nat × Chunk)) (counter : Int) :
    (wasParts u start stop counter vs).map (List.map Part.val) = wasChunkLoop u start stop counter (vs.map Prod.snd) :=
  (wasParts_spec (P := fun _ _ => True) start stop vs (fun _ _ => trivial) counter).val

end

/-- the recorded value of every reused run is the run's value in `h` -/
def partsTrue (h : Heap) (ps : List Part) : Prop := ∀ c v, Part.shared c v ∈ ps → h.chunkVal c = some v

theorem allocParts_val {o : List Nat} {h : Heap} {ps : List Part} (hp : partsTrue h ps) :
    Passes u (allocParts ps) o h fun cs _ h' => h'.valsOf cs = some (ps.map Part.val) := by
  induction ps generalizing o h with
  | nil => exact Passes.pure rfl
  | cons p ps ih =>
    have hps : partsTrue h ps := fun c v hm => hp c v (List.mem_cons_of_mem _ hm)
    cases p with
    | shared c v =>
      refine Passes.bind (ih hps) fun cs o' h' p' hcs => Passes.pure ?_
      exact valsOf_cons.mpr ⟨v, _, p'.chunkVal_some (hp c v List.mem_cons_self), hcs, rfl⟩
    | fresh v =>
      refine Passes.bind (newChunk_val v.s v.atts) fun c o' h' p' hc => ?_
      refine Passes.bind (ih fun c x hm => p'.chunkVal_some (hps c x hm)) fun cs o'' h'' p'' hcs => Passes.pure ?_
      exact valsOf_cons.mpr ⟨v, _, p''.chunkVal_some hc, hcs, rfl⟩

theorem build_val {ps : List Part} {v : FmtStr} (hp : PartsOf (h.chunkVal · = some ·) ps v) :
    Passes u (build ps) o h fun r _ h' => h'.value r = some v :=
  Passes.bind (allocParts_val hp.2) fun _ _ _ _ hcs => mkFmt_val (hp.1 ▸ hcs)

theorem lit_val (f : FmtStr) :
    Passes u (lit f) o h fun x _ h' => h'.value x = some f :=
  build_val ⟨(List.map_map ..).trans (List.map_id f), fun c w hm => by simp at hm⟩

/-- the shape of `copy_with_new_atts`, `new_with_atts_removed`, `copy_with_new_str`: every run is new -/
theorem fromVals_val {r : Nat} {v : FmtStr} (hv : h.value r = some v) (F : FmtStr → FmtStr) :
    Passes u (contents r >>= fun cs => chunkVals cs >>= fun vs => build ((F (vs.map Prod.snd)).map Part.fresh)) o h
      fun x _ h' => h'.value x = some (F v) :=
  contents_val hv fun _ hcs => chunkVals_val hcs fun _ e _ => e ▸ lit_val _

theorem cwna_val {r : Nat} {v : FmtStr} (hv : h.value r = some v) (a : Atts) :
    Passes u (cwna r a) o h fun x _ h' => h'.value x = some (copyWithNewAtts v a) :=
  fromVals_val hv (copyWithNewAtts · a)

theorem nwar_val {r : Nat} {v : FmtStr} (hv : h.value r = some v) (ks : List Key) :
    Passes u (nwar r ks) o h fun x _ h' => h'.value x = some (newWithAttsRemoved v ks) :=
  fromVals_val hv (newWithAttsRemoved · ks)

theorem cwns_val {r : Nat} {v : FmtStr} (hv : h.value r = some v) (t : Text) :
    Passes u (cwns r t) o h fun x _ h' => h'.value x = some (copyWithNewStr v t) :=
  fromVals_val hv (copyWithNewStr · t)

theorem copy_val {r : Nat} {v : FmtStr} (hv : h.value r = some v) :
    Passes u (Heap.copy r) o h fun x _ h' => h'.value x = some v :=
  contents_val hv fun _ hcs => mkFmt_val hcs

theorem fmtstrOfStr_val (t : Text) (a : Atts) :
    Passes u (fmtstrOfStr t a) o h fun x _ h' => h'.value x = some (copyWithNewAtts [⟨t, {}⟩] a) :=
  Passes.bind (lit_val _) fun _ _ _ _ hr => cwna_val hr a

theorem buildOrEmpty_val {ps : List Part} {v : FmtStr} (hp : PartsOf (h.chunkVal · = some ·) ps v) :
    Passes u (buildOrEmpty ps) o h fun x _ h' => h'.value x = some (if v.isEmpty then emptyFmt else v) := by
  cases hp.1
  cases ps with
  | nil => exact fmtstrOfStr_val [] {}
  | cons p ps => exact build_val hp

def Refines (h : Heap) (X : Except PyErr FmtStr) (res : Except PyErr Nat) : Prop :=
  match X with
  | .error e => res = .error e
  | .ok w => ∃ r, res = .ok r ∧ h.value r = some w

theorem Refines.live {X : Except PyErr FmtStr} {res : Except PyErr Nat} (hres : Refines h X res)
    {r : Nat} (e : res = .ok r) : r < h.fmts.length := by
  subst e
  cases X with
  | error e => cases hres
  | ok w => obtain ⟨r', e', hr⟩ := hres; cases e'; exact value_lt hr

theorem getitem_val {a : Nat} {v : FmtStr} (hv : h.value a = some v) (idx : Index) :
    Passes u (Heap.getitem a idx) o h fun res _ h' => Refines h' (Curtsies.getitem v idx) res := by
  refine Passes.bind (obsLen_val hv) fun n o1 h1 p1 hn => ?_
  subst hn
  simp only [Curtsies.getitem, bind, Except.bind]
  cases normalizeSlice (len v) idx with
  | error e => exact Passes.pure rfl
  | ok se =>
    refine contents_val (p1.value_some hv) fun cs hcs => chunkVals_val hcs fun vs e htrue => ?_
    subst e
    exact Passes.bind (buildOrEmpty_val (getitemParts_spec se.1 se.2 vs htrue 0)) fun r _ _ _ hr =>
      Passes.pure ⟨r, rfl, hr⟩

theorem Pres.argVal_some {h' : Heap} (p : Pres h h') {x : Arg} {w : FmtStr} (hw : argVal h x = some w) :
    argVal h' x = some w := by
  cases x with
  | ref r => exact p.value_some hw
  | str t => exact hw

theorem argLen_val {x : Arg} {w : FmtStr} (hw : argVal h x = some w) :
    Passes u (argLen x) o h fun n _ _ => n = len w := by
  cases x with
  | ref r => exact obsLen_val hw
  | str t => cases hw; exact Passes.pure (by simp [len])

theorem argFmt_val {x : Arg} {w : FmtStr} (hw : argVal h x = some w) :
    Passes u (argFmt x) o h fun r _ h' => h'.value r = some w := by
  cases x with
  | ref r => exact Passes.pure hw
  | str t => cases hw; exact fmtstrOfStr_val t {}

theorem splice_val {a : Nat} {new : Arg} {v w : FmtStr} (hv : h.value a = some v)
    (hw : argVal h new = some w) (start : Nat) (end_ : Option Nat) :
    Passes u (Heap.splice a new start end_) o h fun r _ h' => h'.value r = some (Curtsies.splice v w start end_) := by
  refine Passes.bind (argLen_val hw) fun n o1 h1 p1 hn => ?_
  subst hn
  have hv1 := p1.value_some hv
  unfold Curtsies.splice
  split
  · exact Passes.pure hv1
  · refine Passes.bind (argFmt_val (p1.argVal_some hw)) fun nf o2 h2 p2 hnf => ?_
    refine contents_val hnf fun ncs hncs => chunkVals_val hncs fun nvs en hnvs => ?_
    refine contents_val (p2.value_some hv1) fun cs hcs => chunkVals_val hcs fun vs ev hvs => ?_
    subst en ev
    -- `new`'s run objects are reused as they are
    have hnew : PartsOf (h2.chunkVal · = some ·) (nvs.map fun p => Part.shared p.1 p.2) (nvs.map Prod.snd) := by
      refine ⟨by simp [List.map_map, Function.comp_def, Part.val], fun c x hm => ?_⟩
      obtain ⟨p, hp, e⟩ := List.mem_map.mp hm
      cases e
      exact hnvs p hp
    obtain ⟨comps, cv, ins, e1, e2, hcomps⟩ := spliceParts_spec hnew start (end_.getD start) vs hvs 0 false
    dsimp only
    rw [e1, e2]
    exact build_val ((ite_both (fun _ => hcomps) fun _ => hcomps.append hnew).filter fun c => !c.s.isEmpty)

theorem append_val {a : Nat} {new : Arg} {v w : FmtStr} (hv : h.value a = some v) (hw : argVal h new = some w) :
    Passes u (Heap.append a new) o h fun r _ h' => h'.value r = some (Curtsies.append v w) := by
  refine Passes.bind (obsS_val hv) fun t o1 h1 p1 ht => ?_
  subst ht
  have := splice_val (u := u) (o := o1) (p1.value_some hv) (p1.argVal_some hw) (text v).length none
  rwa [text_length] at this ⊢

theorem widthAwareSlice_val {a : Nat} {v : FmtStr} (hv : h.value a = some v) (idx : Index) :
    Passes u (Heap.widthAwareSlice u a idx) o h fun res _ h' =>
      Refines h' (Curtsies.widthAwareSlice u v idx) res := by
  refine Passes.bind (obsS_val hv) fun t o1 h1 p1 ht => ?_
  subst ht
  unfold Curtsies.widthAwareSlice
  split
  · exact Passes.pure rfl
  · have hv1 := p1.value_some hv
    refine Passes.bind (obsWidth_val hv1) fun res o2 h2 p2 hres => ?_
    subst hres
    simp only [bind, Except.bind]
    cases fmtWidth u v with
    | error e => exact Passes.pure rfl
    | ok wd =>
      dsimp only
      cases normalizeSlice wd.toNat idx with
      | error e => exact Passes.pure rfl
      | ok se =>
        refine contents_val (p2.value_some hv1) fun cs hcs => chunkVals_val hcs fun vs ev hvs => ?_
        subst ev
        have hp := wasParts_spec (u := u) (P := (h2.chunkVal · = some ·)) se.1 se.2 vs hvs 0
        dsimp only
        generalize wasParts .. = X, wasChunkLoop .. = Y at hp ⊢
        cases hp with
        | error e => exact Passes.pure rfl
        | ok hp => exact Passes.bind (buildOrEmpty_val hp) fun r _ _ _ hr => Passes.pure ⟨r, rfl, hr⟩

/-- `FmtStr(*(self.chunks + other.chunks))`: the temporary list is copied into the new object's own list -/
theorem tmpFmt_val {xs : List Nat} {v : FmtStr} (hv : h.valsOf xs = some v) :
    Passes u (newList xs >>= fun t => getList t >>= mkFmt) o h fun r _ h' => h'.value r = some v :=
  Passes.bind (newList_val hv) fun _ _ _ _ ht => getList_val ht.2 fun _ hcs => mkFmt_val hcs

theorem add_val {a b : Nat} {va vb : FmtStr} (hva : h.value a = some va) (hvb : h.value b = some vb) :
    Passes u (Heap.add a b) o h fun r _ h' => h'.value r = some (Curtsies.add va vb) :=
  contents_val hva fun _ hx => contents_val hvb fun _ hy => tmpFmt_val (valsOf_append hx hy)

theorem addStr_val {a : Nat} {va : FmtStr} (hva : h.value a = some va) (t : Text) :
    Passes u (Heap.addStr a t) o h fun r _ h' => h'.value r = some (Curtsies.addStr va t) :=
  contents_val hva fun _ hx => Passes.bind (newChunk_val t {}) fun _ _ _ p2 hc =>
    tmpFmt_val (valsOf_append (p2.valsOf_some hx) (valsOf_single hc))

theorem raddStr_val {a : Nat} {va : FmtStr} (hva : h.value a = some va) (t : Text) :
    Passes u (Heap.raddStr a t) o h fun r _ h' => h'.value r = some (Curtsies.raddStr va t) :=
  Passes.bind (newChunk_val t {}) fun _ _ _ p1 hc => contents_val (p1.value_some hva) fun _ hx =>
    tmpFmt_val (valsOf_append (valsOf_single hc) hx)

theorem mulLoop_val {o : List Nat} {h : Heap} {a : Nat} {va : FmtStr} (hva : h.value a = some va) (k : Nat)
    {acc : Nat} {vacc : FmtStr} (hv : h.value acc = some vacc) :
    Passes u (mulLoop a k acc) o h fun r _ h' => h'.value r = some (vacc ++ (List.replicate k va).flatten) := by
  induction k generalizing o h acc vacc with
  | zero => exact Passes.pure (by simpa using hv)
  | succ k ih =>
    refine Passes.bind (add_val hv hva) fun acc' o1 h1 p1 hacc => ?_
    refine Passes.mono (ih (p1.value_some hva) hacc) fun r _ h2 hr => ?_
    rw [hr]; simp [Curtsies.add, List.replicate_succ]

theorem mul_val {a : Nat} {va : FmtStr} (hva : h.value a = some va) (n : Int) :
    Passes u (Heap.mul a n) o h fun r _ h' => h'.value r = some (Curtsies.mul va n) := by
  refine Passes.bind (mkFmt_val (cs := []) rfl) fun z o1 h1 p1 hz => ?_
  refine Passes.mono (mulLoop_val (p1.value_some hva) n.toNat hz) fun r _ h2 hr => ?_
  rw [hr]; simp [Curtsies.mul]

/-- `c` only adds list objects, whatever the mode; closed under `>>=`, so it is read off a command's text. It serves `join`
    alone. A prefix of the list table, not a bound on its length: `Passes.keeps` needs every list object that existed to hold
    what it held, also one that no FmtStr holds (`join`'s local lists), of which `Pres` says nothing. -/
def Keeps {α : Type} (c : Cmd α) : Prop :=
  ∀ (u : UEnv) (chk : Bool) (o : List Nat) (h : Heap) (x : α × List Nat × Heap), interp u chk c o h = some x →
    h.lists <+: x.2.2.lists

theorem Keeps.pure {α : Type} (a : α) : Keeps (Pure.pure a : Cmd α) := by
  intro u chk o h x e
  cases e; exact List.prefix_rfl

theorem Keeps.bind {α β : Type} {c : Cmd α} {k : α → Cmd β} (hc : Keeps c) (hk : ∀ a, Keeps (k a)) : Keeps (c >>= k) := by
  intro u chk o h x e
  rw [interp_bind] at e
  obtain ⟨y, e1, e2⟩ := Option.bind_eq_some_iff.mp e
  exact (hc u chk o h y e1).trans (hk _ u chk _ _ x e2)

theorem keeps_newChunk (s : Text) (a : Atts) : Keeps (newChunk s a) := by
  intro u chk o h x e
  cases e; exact List.prefix_rfl

theorem keeps_newList (xs : List Nat) : Keeps (newList xs) := by
  intro u chk o h x e
  obtain ⟨_, e⟩ := Option.ite_none_right_eq_some.mp e
  cases e; exact List.prefix_append _ _

theorem keeps_newFmt (l : Nat) : Keeps (newFmt l) := by
  intro u chk o h x e
  obtain ⟨_, e⟩ := Option.ite_none_right_eq_some.mp e
  obtain ⟨_, e⟩ := Option.ite_none_right_eq_some.mp e
  cases e; exact List.prefix_rfl

theorem keeps_getChunk (c : Nat) : Keeps (getChunk c) := by
  intro u chk o h x e
  simp only [getChunk, interp] at e
  split at e
  · cases e; exact List.prefix_rfl
  · cases e

theorem keeps_getList (l : Nat) : Keeps (getList l) := by
  intro u chk o h x e
  simp only [getList, interp] at e
  split at e
  · cases e; exact List.prefix_rfl
  · cases e

theorem keeps_getFmt (r : Nat) : Keeps (getFmt r) := by
  intro u chk o h x e
  simp only [getFmt, interp] at e
  split at e
  · cases e; exact List.prefix_rfl
  · cases e

theorem keeps_contents (r : Nat) : Keeps (contents r) := Keeps.bind (keeps_getFmt r) fun f => keeps_getList f.chunks

theorem keeps_chunkVals (cs : List Nat) : Keeps (chunkVals cs) := by
  induction cs with
  | nil => exact Keeps.pure _
  | cons c cs ih => exact Keeps.bind (keeps_getChunk c) fun _ => Keeps.bind ih fun _ => Keeps.pure _

theorem keeps_mkFmt (cs : List Nat) : Keeps (mkFmt cs) := Keeps.bind (keeps_newList cs) keeps_newFmt

theorem keeps_allocParts (ps : List Part) : Keeps (allocParts ps) := by
  induction ps with
  | nil => exact Keeps.pure _
  | cons p ps ih =>
    cases p with
    | shared c v => exact Keeps.bind ih fun _ => Keeps.pure _
    | fresh v => exact Keeps.bind (keeps_newChunk _ _) fun _ => Keeps.bind ih fun _ => Keeps.pure _

theorem keeps_build (ps : List Part) : Keeps (build ps) := Keeps.bind (keeps_allocParts ps) keeps_mkFmt

theorem keeps_cwna (r : Nat) (a : Atts) : Keeps (cwna r a) :=
  Keeps.bind (keeps_contents r) fun cs => Keeps.bind (keeps_chunkVals cs) fun _ => keeps_build _

theorem keeps_itemChunks (x : Arg) : Keeps (itemChunks x) := by
  cases x with
  | ref r => exact keeps_contents r
  | str t => exact Keeps.bind (Keeps.bind (keeps_build _) fun r => keeps_cwna r {}) keeps_contents

theorem Passes.keeps {α : Type} {c : Cmd α} (hc : Keeps c) {o : List Nat} {h : Heap} {R : α → List Nat → Heap → Prop}
    (hk : Passes u c o h R) :
    Passes u c o h fun a o' h' => R a o' h' ∧ ∀ {l w}, h.listVal l = some w → h'.listVal l = some w := by
  intro g
  obtain ⟨a, o', h', e, g', p, r⟩ := hk g
  obtain ⟨new, e'⟩ := hc u true o h _ e
  exact ⟨a, o', h', e, g', p, r, fun hw => p.listVal_some (e' ▸ List.getElem?_append_left (listVal_lt hw)) hw⟩

theorem itemChunks_val {x : Arg} {w : FmtStr} (hw : argVal h x = some w) :
    Passes u (itemChunks x) o h fun cs _ h' => h'.valsOf cs = some w := by
  -- `contents r` is what `contents r >>= pure` unfolds to
  cases x with
  | ref r => exact contents_val (k := Pure.pure) hw fun _ hcs => Passes.pure hcs
  | str t =>
    cases hw
    exact Passes.bind (fmtstrOfStr_val t {}) fun r _ _ _ hr =>
      contents_val (k := Pure.pure) hr fun _ hcs => Passes.pure hcs

theorem Pres.argVals {h' : Heap} (p : Pres h h') {items : List Arg} {ws : List FmtStr}
    (hws : items.map (argVal h) = ws.map some) : items.map (argVal h') = ws.map some := by
  refine (List.map_congr_left fun x hx => ?_).trans hws
  have hm : argVal h x ∈ ws.map some := hws ▸ List.mem_map_of_mem hx
  obtain ⟨w, _, hw⟩ := List.mem_map.mp hm
  rw [← hw]
  exact p.argVal_some hw.symm

theorem joinLoop_val {o : List Nat} {h : Heap} {sepList chunks : Nat} {vsep : FmtStr} (hch : chunks ∈ o)
    (hne : sepList ≠ chunks) (hsep : h.listVal sepList = some vsep)
    {before : Nat} {vb : FmtStr} (hvb : h.listVal before = some vb) {vacc : FmtStr} (hacc : h.listVal chunks = some vacc)
    {items : List Arg} {ws : List FmtStr} (hws : items.map (argVal h) = ws.map some) :
    Passes u (Heap.joinLoop sepList chunks before items) o h fun _ _ h' =>
      h'.listVal chunks = some (vacc ++ Curtsies.joinLoop vsep vb ws) := by
  induction items generalizing o h before vb vacc ws with
  | nil =>
    cases ws with
    | nil => exact Passes.pure (by simpa [Curtsies.joinLoop] using hacc)
    | cons w ws => simp at hws
  | cons s rest ih =>
    cases ws with
    | nil => simp at hws
    | cons w ws' =>
    simp only [List.map_cons, List.cons.injEq] at hws
    unfold Heap.joinLoop
    refine getList_val hvb fun bl hbl => ?_
    refine Passes.bind (listExtend_val hch hbl hacc) fun _ o1 h1 p1 ⟨hacc1, hk1⟩ => ?_
    -- the item's own allocations leave `chunks` and `sep.chunks` alone
    refine Passes.bind (Passes.keeps (keeps_itemChunks s) (itemChunks_val (p1.argVal_some hws.1)))
      fun x o2 h2 p2 ⟨hx, hk2⟩ => ?_
    refine Passes.bind (listExtend_val (p2.own (p1.own hch)) hx (hk2 hacc1)) fun _ o3 h3 p3 ⟨hacc3, hk3⟩ => ?_
    have hsep3 := hk3 hne (hk2 (hk1 hne hsep))
    -- from the second round on `before` is `sep.chunks` itself: `hsep3` is both `hsep` and `hvb` of the next round
    refine Passes.mono (ih (p3.own (p2.own (p1.own hch))) hsep3 hsep3 hacc3
      (((p1.trans p2).trans p3).argVals hws.2)) fun _ _ _ hr => ?_
    rw [hr]; simp [Curtsies.joinLoop, List.append_assoc]

theorem join_val {sep : Nat} {vsep : FmtStr} (hvs : h.value sep = some vsep)
    {items : List Arg} {ws : List FmtStr} (hws : items.map (argVal h) = ws.map some) :
    Passes u (Heap.join sep items) o h fun r _ h' => h'.value r = some (Curtsies.join vsep ws) := by
  refine Passes.bind (newList_val (xs := []) rfl) fun before o1 h1 p1 ⟨_, hb⟩ => ?_
  refine Passes.bind (Passes.keeps (keeps_newList _) (newList_val (xs := []) rfl))
    fun chunks o2 h2 p2 ⟨⟨hco, hc⟩, hk2⟩ => ?_
  refine getFmt_val ((p1.trans p2).value_some hvs) fun f hf hsl => Passes.good fun g2 => ?_
  refine Passes.bind (joinLoop_val hco ((g2.owned chunks hco).2 sep _ hf) hsl
    (hk2 hb) hc ((p1.trans p2).argVals hws)) fun _ o3 h3 p3 hacc => ?_
  exact getList_val hacc fun cs hcs => mkFmt_val hcs

theorem resLive_one {r : Nat} (hr : r < h.fmts.length) : resLive h (.ofExcept (.ok r)) :=
  fun _ hm => by cases List.mem_singleton.mp hm; exact hr

theorem Refines.resLive {X : Except PyErr FmtStr} {res : Except PyErr Nat} (hres : Refines h X res) :
    Heap.resLive h (.ofExcept res) := by
  cases res with
  | error e => trivial
  | ok r => exact resLive_one (hres.live rfl)

theorem slicesLoop_ok {o : List Nat} {h : Heap} {a : Nat} {v : FmtStr} (hv : h.value a = some v) (bounds : List (Nat × Nat)) :
    Passes u (slicesLoop a bounds) o h fun res _ h' => resLive h' (.ofExceptList res) := by
  induction bounds generalizing o h with
  | nil => exact Passes.pure (fun r hm => nomatch hm)
  | cons b rest ih =>
    obtain ⟨s, e⟩ := b
    unfold slicesLoop
    refine Passes.bind (getitem_val hv _) fun res o1 h1 p1 hres => ?_
    split
    · exact Passes.pure trivial
    · rename_i r
      refine Passes.bind (ih (p1.value_some hv)) fun res2 o2 h2 p2 hres2 => ?_
      split
      · exact Passes.pure trivial
      · exact Passes.pure (List.forall_mem_cons.mpr ⟨p2.fmt_lt (hres.live rfl), hres2⟩)

theorem slices_ok {a : Nat} {v : FmtStr} (hv : h.value a = some v) (bounds : Except PyErr (List (Nat × Nat))) :
    Passes u (slices a bounds) o h fun res _ h' => resLive h' (.ofExceptList res) := by
  unfold slices
  refine Passes.bind (obsS_val hv) fun t o1 h1 p1 _ => ?_
  split
  · exact Passes.pure trivial
  · exact slicesLoop_ok (p1.value_some hv) _

theorem eqOp_ok {a : Nat} {v : FmtStr} (hv : h.value a = some v) {other : Arg} {w : FmtStr}
    (hw : argVal h other = some w) : Passes u (eqOp a other) o h fun _ _ _ => True := by
  unfold eqOp
  refine Passes.bind (obsStr_val hv) fun x o1 h1 p1 _ => ?_
  refine Passes.bind (R1 := fun _ _ _ => True) ?_ fun y o2 h2 _ _ => Passes.pure trivial
  cases other with
  | ref r => exact Passes.mono (obsStr_val (p1.value_some hw)) (fun _ _ _ _ => trivial)
  | str t => exact Passes.pure trivial

theorem addEither_ok {a b : Nat} {va vb : FmtStr} (hva : h.value a = some va) (hvb : h.value b = some vb)
    (left : Bool) : Passes u (addEither left a b) o h fun r _ h' => r < h'.fmts.length := by
  cases left
  · exact Passes.mono (add_val hvb hva) fun _ _ _ hr => value_lt hr
  · exact Passes.mono (add_val hva hvb) fun _ _ _ hr => value_lt hr

theorem justPlain_ok {a : Nat} {v : FmtStr} (hv : h.value a = some v) (left : Bool) (toAdd : Text) (sh : Atts) :
    Passes u (justPlain left a toAdd sh) o h fun r _ h' => r < h'.fmts.length := by
  unfold justPlain
  split
  · split
    · exact Passes.pure (value_lt hv)
    · exact Passes.bind (fmtstrOfStr_val _ _) fun p o2 h2 p2 hp => addEither_ok (p2.value_some hv) hp left
  · refine Passes.bind (nwar_val hv _) fun uniform o2 h2 p2 hu => ?_
    split
    · exact Passes.pure (value_lt hu)
    · exact Passes.bind (fmtstrOfStr_val _ _) fun p o3 h3 p3 hp => addEither_ok (p3.value_some hu) hp left

theorem just_ok {a : Nat} {v : FmtStr} (hv : h.value a = some v) (left : Bool) (width : Int)
    (fill : Option Text) (shared : Except PyErr Atts) :
    Passes u (just left a width fill shared) o h fun res _ h' => resLive h' (.ofExcept res) := by
  unfold just
  refine Passes.bind (obsS_val hv) fun t o1 h1 p1 _ => ?_
  split
  · exact Passes.pure trivial
  · split
    · exact Passes.bind (fmtstrOfStr_val _ _) fun r o2 h2 p2 hr => Passes.pure (resLive_one (value_lt hr))
    · exact Passes.bind (justPlain_ok (p1.value_some hv) _ _ _) fun r o2 h2 p2 hr => Passes.pure (resLive_one hr)

theorem waslLine_ok {o : List Nat} {h : Heap} {col : Nat} (hcol : col ∈ o) (line : List Chunk) :
    Passes u (waslLine col line) o h fun _ _ _ => True := by
  induction line generalizing o h with
  | nil => exact Passes.pure trivial
  | cons c cs ih =>
    unfold waslLine
    refine Passes.bind (newChunk_val c.s c.atts) fun id o1 h1 p1 hid => ?_
    exact Passes.bind (listAppend_ok (p1.own hcol) (chunkVal_lt hid)) fun _ o2 h2 p2 _ => ih (p2.own (p1.own hcol))

theorem clearIf_ok {col : Nat} (hcol : col ∈ o) (full : Bool) :
    Passes u (clearIf full col) o h fun _ _ _ => True := by
  cases full
  · exact Passes.pure trivial
  · exact listClear_ok hcol

theorem waslLoop_ok {o : List Nat} {h : Heap} {col : Nat} (hcol : col ∈ o) (lines : List (List Chunk × Bool)) :
    Passes u (waslLoop col lines) o h fun rs _ h' => ∀ r, r ∈ rs → r < h'.fmts.length := by
  induction lines generalizing o h with
  | nil => exact Passes.pure (fun r hm => by cases hm)
  | cons l rest ih =>
    obtain ⟨line, full⟩ := l
    unfold waslLoop
    refine Passes.bind (waslLine_ok hcol line) fun _ o1 h1 p1 _ => Passes.good fun g1 => ?_
    obtain ⟨v, hv⟩ := g1.listVal_some (g1.owned _ (p1.own hcol)).1
    -- `FmtStr(*chunks_of_line)` copies the list before it is cleared
    refine getList_val hv fun cs hcs => ?_
    refine Passes.bind (mkFmt_val hcs) fun r o3 h3 p3 hr => ?_
    have hcol3 : col ∈ o3 := p3.own (p1.own hcol)
    refine Passes.bind (clearIf_ok hcol3 full) fun _ o4 h4 p4 _ => ?_
    exact Passes.bind (ih (p4.own hcol3)) fun rs o5 h5 p5 hrs =>
      Passes.pure (List.forall_mem_cons.mpr ⟨(p4.trans p5).fmt_lt (value_lt hr), hrs⟩)

theorem widthAwareSplitlines_ok {a : Nat} {v : FmtStr} (hv : h.value a = some v)
    (columns : Int) (lines : List (List Chunk × Bool)) :
    Passes u (Heap.widthAwareSplitlines u a columns lines) o h fun res _ h' => resLive h' (.ofExceptList res) := by
  unfold Heap.widthAwareSplitlines
  split
  · exact Passes.pure trivial
  · refine Passes.bind (obsS_val hv) fun t o1 h1 p1 _ => ?_
    split
    · exact Passes.pure trivial
    · refine Passes.bind (newList_val (xs := []) rfl) fun col o2 h2 p2 hcol => ?_
      exact Passes.bind (waslLoop_ok hcol.1 lines) fun rs o3 h3 p3 hrs => Passes.pure hrs

theorem delegPieces_ok {o : List Nat} {h : Heap} (sh : Atts) (ts : List Text) :
    Passes u (delegPieces sh ts) o h fun rs _ h' => ∀ r, r ∈ rs → r < h'.fmts.length := by
  induction ts generalizing o h with
  | nil => exact Passes.pure (fun r hm => by cases hm)
  | cons t ts ih =>
    unfold delegPieces
    refine Passes.bind (fmtstrOfStr_val t sh) fun r o1 h1 p1 hr => ?_
    exact Passes.bind ih fun rs o2 h2 p2 hrs =>
      Passes.pure (List.forall_mem_cons.mpr ⟨p2.fmt_lt (value_lt hr), hrs⟩)

theorem delegated_ok {a : Nat} {v : FmtStr} (hv : h.value a = some v)
    (res : Except PyErr (Option (List Text))) (shared : Except PyErr Atts) :
    Passes u (delegated a res shared) o h fun res _ h' => resLive h' (.ofExceptList res) := by
  unfold delegated
  refine Passes.bind (obsS_val hv) fun t o1 h1 p1 _ => ?_
  split
  · exact Passes.pure trivial
  · exact Passes.pure (fun r hm => nomatch hm)
  · split
    · exact Passes.pure (fun r hm => nomatch hm)
    · exact Passes.pure trivial
    · exact Passes.bind (delegPieces_ok _ _) fun rs o2 h2 p2 hrs => Passes.pure hrs

theorem obsColor_ok {a : Nat} {v : FmtStr} (hv : h.value a = some v) (k : Nat) :
    Passes u (obsColor a k) o h fun _ _ _ => True := by
  unfold obsColor
  refine contents_val hv fun cs hcs => ?_
  split
  · exact Passes.pure trivial
  · rename_i c hc
    obtain ⟨cv, hcv⟩ := chunkVal_some_of_lt (valsOf_ids hcs c (List.mem_of_getElem? hc))
    exact Passes.bind (chunkColorStr_val hcv) fun _ o2 h2 _ _ => Passes.pure trivial

theorem Good.argVal_some (g : Good u o h) {x : Arg} (hx : ∀ r, r ∈ x.refs → r < h.fmts.length) :
    ∃ w, argVal h x = some w := by
  cases x with
  | ref r => exact g.value_some (hx r List.mem_cons_self)
  | str t => exact ⟨_, rfl⟩

theorem Good.argVals_some (g : Good u o h) {items : List Arg}
    (hx : ∀ r, r ∈ items.flatMap Arg.refs → r < h.fmts.length) :
    ∃ ws : List FmtStr, items.map (argVal h) = ws.map some := by
  induction items with
  | nil => exact ⟨[], rfl⟩
  | cons x xs ih =>
    simp only [List.flatMap_cons, List.mem_append] at hx
    obtain ⟨w, hw⟩ := g.argVal_some (x := x) fun r hr => hx r (.inl hr)
    obtain ⟨ws, hws⟩ := ih fun r hr => hx r (.inr hr)
    exact ⟨w :: ws, by rw [List.map_cons, hw, hws]; rfl⟩

theorem Passes.res {α : Type} {c : Cmd α} {o : List Nat} {h : Heap} {R : α → List Nat → Heap → Prop} (f : α → Res)
    (hf : ∀ x o' h', R x o' h' → resLive h' (f x)) (hc : Passes u c o h R) :
    Passes u (c >>= fun x => Pure.pure (f x)) o h fun res _ h' => resLive h' res :=
  Passes.bind hc fun x _ _ _ hx => Passes.pure (hf x _ _ hx)

theorem Passes.one {c : Cmd Nat} {o : List Nat} {h : Heap} {X : FmtStr} (hc : Passes u c o h fun r _ h' => h'.value r = some X) :
    Passes u (c >>= fun r => Pure.pure (Res.one r)) o h fun res _ h' => resLive h' res :=
  Passes.res Res.one (fun _ _ _ hr => resLive_one (value_lt hr)) hc

theorem opCmd_ok (op : Op) (hl : opLive h op) :
    Passes u (opCmd u op) o h fun res _ h' => resLive h' res := by
  refine Passes.good fun g => ?_
  have val : ∀ r, r ∈ opRefs op → ∃ v, h.value r = some v := fun r hr => g.value_some (hl r hr)
  cases op with
  | lit f => exact Passes.one (lit_val f)
  | fmtstrOf t a => exact Passes.one (fmtstrOfStr_val t a)
  | add a b =>
    obtain ⟨va, hva⟩ := val a List.mem_cons_self
    obtain ⟨vb, hvb⟩ := val b (List.mem_cons_of_mem _ List.mem_cons_self)
    exact Passes.one (add_val hva hvb)
  | addStr a t => exact (val a List.mem_cons_self).elim fun _ hva => Passes.one (addStr_val hva t)
  | raddStr a t => exact (val a List.mem_cons_self).elim fun _ hva => Passes.one (raddStr_val hva t)
  | mul a n => exact (val a List.mem_cons_self).elim fun _ hva => Passes.one (mul_val hva n)
  | join sep items =>
    obtain ⟨vs, hvs⟩ := val sep List.mem_cons_self
    obtain ⟨ws, hws⟩ := g.argVals_some (items := items) fun r hr => hl r (List.mem_cons_of_mem _ hr)
    exact Passes.one (join_val hvs hws)
  | getitem a idx =>
    exact (val a List.mem_cons_self).elim fun _ hva =>
      Passes.res Res.ofExcept (fun _ _ _ hres => hres.resLive) (getitem_val hva idx)
  | splice a new start end_ =>
    obtain ⟨va, hva⟩ := val a List.mem_cons_self
    obtain ⟨w, hw⟩ := g.argVal_some (x := new) fun r hr => hl r (List.mem_cons_of_mem _ hr)
    simp only [opCmd]
    split
    · exact Passes.pure trivial
    · exact Passes.one (splice_val hva hw start end_)
  | append a new =>
    obtain ⟨va, hva⟩ := val a List.mem_cons_self
    obtain ⟨w, hw⟩ := g.argVal_some (x := new) fun r hr => hl r (List.mem_cons_of_mem _ hr)
    exact Passes.one (append_val hva hw)
  | cwna a atts => exact (val a List.mem_cons_self).elim fun _ hva => Passes.one (cwna_val hva atts)
  | nwar a ks => exact (val a List.mem_cons_self).elim fun _ hva => Passes.one (nwar_val hva ks)
  | cwns a t => exact (val a List.mem_cons_self).elim fun _ hva => Passes.one (cwns_val hva t)
  | copy a => exact (val a List.mem_cons_self).elim fun _ hva => Passes.one (copy_val hva)
  | slices a bounds =>
    exact (val a List.mem_cons_self).elim fun _ hva =>
      Passes.res Res.ofExceptList (fun _ _ _ hr => hr) (slices_ok hva bounds)
  | just left a width fill shared =>
    exact (val a List.mem_cons_self).elim fun _ hva =>
      Passes.res Res.ofExcept (fun _ _ _ hr => hr) (just_ok hva left width fill shared)
  | wslice a idx =>
    exact (val a List.mem_cons_self).elim fun _ hva =>
      Passes.res Res.ofExcept (fun _ _ _ hres => hres.resLive) (widthAwareSlice_val hva idx)
  | wsplit a columns lines =>
    exact (val a List.mem_cons_self).elim fun _ hva =>
      Passes.res Res.ofExceptList (fun _ _ _ hr => hr) (widthAwareSplitlines_ok hva columns lines)
  | deleg a res shared =>
    exact (val a List.mem_cons_self).elim fun _ hva =>
      Passes.res Res.ofExceptList (fun _ _ _ hr => hr) (delegated_ok hva res shared)
  | obsStr a =>
    exact (val a List.mem_cons_self).elim fun _ hva =>
      Passes.res Res.text (fun _ _ _ _ => trivial) (obsStr_val hva)
  | obsLen a =>
    exact (val a List.mem_cons_self).elim fun _ hva =>
      Passes.res (fun n : Nat => Res.int n) (fun _ _ _ _ => trivial) (obsLen_val hva)
  | obsS a =>
    exact (val a List.mem_cons_self).elim fun _ hva =>
      Passes.res Res.text (fun _ _ _ _ => trivial) (obsS_val hva)
  | obsWidth a =>
    obtain ⟨va, hva⟩ := val a List.mem_cons_self
    refine Passes.bind (obsWidth_val hva) fun x _ _ _ _ => ?_
    cases x with
    | ok w => exact Passes.pure trivial
    | error e => exact Passes.pure trivial
  | obsColor a k =>
    obtain ⟨va, hva⟩ := val a List.mem_cons_self
    refine Passes.bind (obsColor_ok hva k) fun x _ _ _ _ => ?_
    cases x with
    | ok t => exact Passes.pure trivial
    | error e => exact Passes.pure trivial
  | obsInterrupted which a k =>
    obtain ⟨va, hva⟩ := val a List.mem_cons_self
    simp only [opCmd]
    split
    · refine contents_val hva fun cs hcs => ?_
      obtain ⟨w, hw⟩ := valsOf_some_of_ids (cs := cs.take (k - 1)) fun c hm => valsOf_ids hcs c (List.mem_of_mem_take hm)
      exact Passes.bind (colorStrs_val hw) fun _ _ _ _ _ => Passes.pure trivial
    · exact Passes.pure trivial
  | eq a other =>
    obtain ⟨va, hva⟩ := val a List.mem_cons_self
    obtain ⟨w, hw⟩ := g.argVal_some (x := other) fun r hr => hl r (List.mem_cons_of_mem _ hr)
    exact Passes.res Res.bool (fun _ _ _ _ => trivial) (eqOp_ok hva hw)
  | hash a =>
    exact (val a List.mem_cons_self).elim fun _ hva =>
      Passes.res (fun _ => Res.opaque) (fun _ _ _ _ => trivial) (obsStr_val hva)
  | setitem a => exact Passes.pure trivial
  | attsMutate a k name => exact Passes.pure trivial

end Curtsies.Heap
