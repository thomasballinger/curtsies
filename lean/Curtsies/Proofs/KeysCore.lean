/- The table premises of C20 (`KeyTables.Core`) and their Bool checker (`coreCheck`). Under `Core` naming cannot fail once
   `get_key` has decided for a key (`keyName_ok_of_known_core`), so the modes cut alike (`getKey_cut`).
   NOT among the premises: "every multi-byte entry is ASCII" (C03's `KeyTables.WF.multibyte_ascii`). In curses mode
   `_key_name` names every sequence (`keyName_curses_ok`), so the mode theorems hold without it, and a table edit of
   that kind re-opens C03's obligations only. -/
import Curtsies.Proofs.Keys
namespace Curtsies

/-- 27 = ESC. `prefix_closed` and `prefix_sound`: `T.prefixes` is KEYMAP_PREFIXES as events.py:70-75 computes it. -/
structure KeyTables.Core (T : KeyTables) : Prop where
  prefix_closed : ∀ e ∈ T.all, e.1.head? = some 27 → ∀ i < e.1.length, 1 ≤ i → e.1.take i ∈ T.prefixes
  prefix_sound : ∀ p ∈ T.prefixes, ∃ e ∈ T.all, e.1.head? = some 27 ∧ ∃ i < e.1.length, 1 ≤ i ∧ e.1.take i = p
  /-- so the proper prefixes of a multi-byte entry make the decoder wait -/
  multibyte_esc : ∀ e ∈ T.all, 2 ≤ e.1.length → e.1.head? = some 27
  nonempty : ∀ e ∈ T.all, e.1 ≠ []
  max_size : ∀ e ∈ T.all, e.1.length ≤ T.maxSize
  subset : ∀ e ∈ T.curses, (T.curtsies.lookup e.1).isSome
  /-- no key twice (the list comes from a dict) -/
  curtsies_lookup : ∀ e ∈ T.curtsies, T.curtsies.lookup e.1 = some e.2

/-- strictly ascending keys: the order in which `harness/extract.py` emits a dict -/
def ascending : List (List Nat) → Bool
  | a :: b :: l => decide (a < b) && ascending (b :: l)
  | _ => true

theorem pairwise_of_ascending : ∀ {ks : List (List Nat)}, ascending ks = true → ks.Pairwise (· < ·)
  | [], _ => .nil
  | [_], _ => List.pairwise_singleton _ _
  | a :: b :: l, h => by
    simp only [ascending, Bool.and_eq_true, decide_eq_true_eq] at h
    have ih := List.pairwise_cons.mp (pairwise_of_ascending h.2)
    refine List.pairwise_cons.mpr ⟨fun c hc => ?_, List.pairwise_cons.mpr ih⟩
    rcases List.mem_cons.mp hc with rfl | hc
    · exact h.1
    · exact List.lt_trans h.1 (ih.1 c hc)

theorem lookup_of_pairwise_ne {α β} [BEq α] [LawfulBEq α] : ∀ {l : List (α × β)}, (l.map (·.1)).Pairwise (· ≠ ·) →
    ∀ e ∈ l, l.lookup e.1 = some e.2
  | (k, v) :: l, h, e, he => by
    obtain ⟨hx, hl⟩ := List.pairwise_cons.mp h
    rcases List.mem_cons.mp he with rfl | he
    · simp only [List.lookup_cons, BEq.rfl]
    · rw [List.lookup_cons, beq_false_of_ne (hx e.1 (List.mem_map_of_mem he)).symm]
      exact lookup_of_pairwise_ne hl e he

/-- every member of `ps` has a partner under `r` in `ks`, found in one pass: each `k` in turn takes the members it is
    a partner of off the front of `ps` -/
def coveredBy {α β} (r : α → β → Bool) : List α → List β → Bool
  | [], ps => ps.isEmpty
  | k :: ks, ps => coveredBy r ks (ps.dropWhile (r k))

theorem coveredBy_spec {α β} {r : α → β → Bool} : ∀ {ks : List α} {ps : List β}, coveredBy r ks ps = true →
    ∀ p ∈ ps, ∃ k ∈ ks, r k p = true
  | [], ps, h, p, hp => by
    rw [List.isEmpty_iff.mp h] at hp
    cases hp
  | k :: ks, ps, h, p, hp => by
    rw [← List.takeWhile_append_dropWhile (p := r k) (l := ps)] at hp
    rcases List.mem_append.mp hp with hp | hp
    · exact ⟨k, List.mem_cons_self, List.all_eq_true.mp List.all_takeWhile p hp⟩
    · obtain ⟨k', hk', h'⟩ := coveredBy_spec (ks := ks) h p hp
      exact ⟨k', List.mem_cons_of_mem _ hk', h'⟩

/-- `T.Core` for the kernel to evaluate. `extract.py` emits the tables and KEYMAP_PREFIXES in ascending order, so one
    pass each does: `ascending`, `isSublist`, `coveredBy` (the entries that extend a KEYMAP_PREFIXES member come after
    those that extend the members before it); in another order the checks fail, they prove nothing false.
    `coveredBy` searches `T.curtsies` only: by `subset` every key of `T.all` is a key there. -/
def KeyTables.coreCheck (T : KeyTables) : Bool :=
  (T.all.all fun e => e.1 != [] && decide (e.1.length ≤ T.maxSize) &&
    (e.1.head? == some 27 || decide (e.1.length < 2)) &&
    (e.1.head? != some 27 || ((List.range' 1 (e.1.length - 1)).map e.1.take).isSublist T.prefixes)) &&
  coveredBy (fun e p => p != [] && p.isPrefixOf e.1 && e.1.head? == some 27 && decide (p.length < e.1.length))
    T.curtsies T.prefixes &&
  (T.curses.map (·.1)).isSublist (T.curtsies.map (·.1)) &&
  ascending (T.curtsies.map (·.1))

theorem KeyTables.core_of_check {T : KeyTables} (h : T.coreCheck = true) : T.Core := by
  simp only [coreCheck, Bool.and_eq_true, List.all_eq_true, Bool.or_eq_true, bne_iff_ne, ne_eq, beq_iff_eq,
    decide_eq_true_eq, List.isSublist_iff_sublist] at h
  obtain ⟨⟨⟨hall, hsound⟩, hsub⟩, hasc⟩ := h
  exact {
    prefix_closed := fun e he h27 i hi h1 =>
      ((hall e he).2.resolve_left (fun h => h h27)).subset
        (List.mem_map.mpr ⟨i, List.mem_range'_1.mpr ⟨h1, by omega⟩, rfl⟩)
    prefix_sound := fun p hp => by
      obtain ⟨e, he, hpe⟩ := coveredBy_spec hsound p hp
      simp only [Bool.and_eq_true, bne_iff_ne, ne_eq, List.isPrefixOf_iff_prefix, beq_iff_eq, decide_eq_true_eq] at hpe
      obtain ⟨⟨⟨hne, hpre⟩, h27⟩, hlt⟩ := hpe
      exact ⟨e, List.mem_append_right _ he, h27, p.length, hlt, List.length_pos_iff.mpr hne,
        (List.prefix_iff_eq_take.mp hpre).symm⟩
    multibyte_esc := fun e he h2 => (hall e he).1.2.resolve_right (by omega)
    nonempty := fun e he => (hall e he).1.1.1
    max_size := fun e he => (hall e he).1.1.2
    subset := fun e he => by
      obtain ⟨e', he', h'⟩ := List.mem_map.mp (hsub.subset (List.mem_map_of_mem (f := (·.1)) he))
      exact List.lookup_isSome_iff.mpr ⟨e', he', beq_iff_eq.mpr h'.symm⟩
    curtsies_lookup := lookup_of_pairwise_ne
      ((pairwise_of_ascending hasc).imp (fun {a b} (hlt : a < b) (e : a = b) => List.lt_irrefl b (e ▸ hlt))) }

variable {T : KeyTables}

theorem KeyTables.Core.prefix_len (hC : T.Core) {p : List Nat} (hp : p ∈ T.prefixes) :
    p.length < T.maxSize ∧ p.head? = some 27 := by
  obtain ⟨e, he, h27, i, hi, h1, rfl⟩ := hC.prefix_sound p hp
  have := hC.max_size e he
  constructor
  · rw [List.length_take]
    omega
  · rw [List.head?_take, if_neg (by omega)]
    exact h27

theorem getKey_prefix_core (hC : T.Core) {seq : List Nat} (hp : seq ∈ T.prefixes) (enc : Enc) (mode : KeyMode) :
    getKey T seq enc mode false = .ok none :=
  getKey_wait (Nat.le_of_lt (hC.prefix_len hp).1) enc mode (.inl hp)

theorem isKey_of_curtsies_name {u n : List Nat} (h : T.curtsies.lookup u = some n) : T.isKey u = true := by
  simp [KeyTables.isKey, h]

theorem curtsies_name_of_isKey (hC : T.Core) {u : List Nat} (hu : T.isKey u = true) :
    ∃ n, T.curtsies.lookup u = some n := by
  simp only [KeyTables.isKey, Bool.or_eq_true, Option.isSome_iff_exists] at hu
  rcases hu with h | ⟨n', hn'⟩
  · exact h
  · exact Option.isSome_iff_exists.mp (hC.subset _ (lookup_mem hn'))

/-- curses naming names every sequence: what has no other name is called `bytes: xNN-xNN...` (`bytesName`, events.py:181) -/
theorem keyName_curses_ok (T : KeyTables) (seq : List Nat) (enc : Enc) : ∃ k, keyName T seq enc .curses = .ok k := by
  simp only [keyName]
  repeat' split
  all_goals exact ⟨_, rfl⟩

/-- curtsies naming fails only on an undecodable sequence without a curtsies name: not "known" when curses ⊆ curtsies -/
theorem keyName_ok_of_known_core (hC : T.Core) (seq : List Nat) (enc : Enc) (mode : KeyMode)
    (hk : keyKnown T seq enc = true) : ∃ k, keyName T seq enc mode = .ok k := by
  cases mode with
  | bytes => exact ⟨_, rfl⟩
  | curses => exact keyName_curses_ok T seq enc
  | curtsies =>
    simp only [keyName]
    cases h : T.curtsies.lookup seq with
    | some n => exact ⟨_, rfl⟩
    | none =>
      cases hd : decode enc seq with
      | some cs => exact ⟨_, rfl⟩
      | none =>
        have hkey : T.isKey seq = true := by
          simpa only [keyKnown, decodable, hd, Option.isSome_none, Bool.or_false, KeyTables.isKey] using hk
        obtain ⟨n, hn⟩ := curtsies_name_of_isKey hC hkey
        rw [h] at hn
        cases hn

theorem getKey_cut (hC : T.Core) (seq : List Nat) (enc : Enc) (mode : KeyMode) (full : Bool) :
    cutOf (getKey T seq enc mode full) = T.cut seq enc full := by
  have hs := getKey_spec T seq enc mode full
  generalize T.cut seq enc full = c at hs ⊢
  cases c with
  | fail e =>
    rw [hs.1]
    rfl
  | wait =>
    rw [hs.1]
    rfl
  | key =>
    obtain ⟨k, hk⟩ := keyName_ok_of_known_core hC seq enc mode hs.2
    rw [hs.1, hk]
    rfl

theorem getKey_isKey_prefix (hC : T.Core) {u : List Nat} (hu : T.isKey u = true) (enc : Enc) (mode : KeyMode)
    (i : Nat) (h1 : 1 ≤ i) (h2 : i < u.length) : getKey T (u.take i) enc mode false = .ok none := by
  obtain ⟨e, he, rfl⟩ := KeyTables.isKey_mem hu
  exact getKey_prefix_core hC (hC.prefix_closed e he (hC.multibyte_esc e he (by omega)) i h2 h1) enc mode

theorem getKey_table_whole_core (hC : T.Core) {u name : List Nat} (h : T.curtsies.lookup u = some name) (enc : Enc) :
    getKey T u enc .curtsies true = .ok (some (.text name)) := by
  rw [getKey_known (hC.max_size _ (List.mem_append_right _ (lookup_mem h))) enc .curtsies true
    (keyKnown_of_isKey (isKey_of_curtsies_name h) enc) (Or.inl rfl)]
  simp [keyName, h, Except.map]

theorem findKey_table_whole_core (hC : T.Core) (u name : List Nat) (h : T.curtsies.lookup u = some name) (enc : Enc) :
    findKey T enc .curtsies (u ++ []) = .ok (some (.text name, u, [])) :=
  findKey_unit enc .curtsies u [] (hC.nonempty _ (List.mem_append_right _ (lookup_mem h)))
    (getKey_isKey_prefix hC (isKey_of_curtsies_name h) enc .curtsies) (getKey_table_whole_core hC h enc)

end Curtsies
