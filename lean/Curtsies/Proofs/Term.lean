/- Lemmas about the terminal spec (Spec/Term.lean): the op lists the windows emit, one row at a time. -/
import Curtsies.Spec.Term
namespace Curtsies.Spec.Terminal
open Curtsies Curtsies.Spec

@[simp] theorem exec_nil (t : Term) : exec t [] = t := rfl
@[simp] theorem exec_cons (t : Term) (op : TermOp) (ops : List TermOp) : exec t (op :: ops) = exec (t.step op) ops := rfl
theorem exec_append (t : Term) (a b : List TermOp) : exec t (a ++ b) = exec (exec t a) b := by
  simp [exec, List.foldl_append]

/-- what every render puts around its rows (`hideCursor` = the window's hide_cursor: the cursor was hidden on entry,
    and a render leaves its visibility alone) -/
theorem exec_framed (t t2 : Term) (hideCursor : Bool) (body : List TermOp) (r c : Nat)
    (h2 : exec { t with cursorVisible := if hideCursor then t.cursorVisible else false } body = t2)
    (hv : t2.cursorVisible = if hideCursor then t.cursorVisible else false) :
    exec t ((if !hideCursor then [TermOp.hide] else []) ++ body ++
        ([TermOp.cup r c] ++ if !hideCursor then [TermOp.show] else [])) =
      { t2 with r := min r (t2.h - 1), c := min c (t2.w - 1), pw := false,
                cursorVisible := if hideCursor then t.cursorVisible else true } := by
  have e1 : exec t (if !hideCursor then [TermOp.hide] else []) =
      { t with cursorVisible := if hideCursor then t.cursorVisible else false } := by
    cases hideCursor <;> rfl
  have e2 : exec t2 ([TermOp.cup r c] ++ if !hideCursor then [TermOp.show] else []) =
      { t2 with r := min r (t2.h - 1), c := min c (t2.w - 1), pw := false,
                cursorVisible := if hideCursor then t2.cursorVisible else true } := by
    cases hideCursor <;> rfl
  rw [exec_append, exec_append t, e1, h2, e2, hv]
  cases hideCursor <;> rfl

/-- the parts of the terminal state no render may touch.  `⟨f.h, f.w, f.sb, f.vis, f.alt⟩` in the proofs moves `f` to a
    struct update of `t` or `t'` in other fields: the same five equations by unfolding, but another proposition.
    (`SameFrame`, `Shows`, `RowStep` share the namespace of the spec's `exec`; nothing in Spec/Term.lean mentions them) -/
structure SameFrame (t t' : Term) : Prop where
  h : t'.h = t.h
  w : t'.w = t.w
  sb : t'.scrollback = t.scrollback
  vis : t'.cursorVisible = t.cursorVisible
  alt : t'.alt = t.alt

theorem SameFrame.refl (t : Term) : SameFrame t t := ⟨rfl, rfl, rfl, rfl, rfl⟩
theorem SameFrame.trans {a b c : Term} (x : SameFrame a b) (y : SameFrame b c) : SameFrame a c :=
  ⟨y.h.trans x.h, y.w.trans x.w, y.sb.trans x.sb, y.vis.trans x.vis, y.alt.trans x.alt⟩

/-- `exec_framed` for a body that keeps the frame and a cursor position on the screen: nothing is clamped -/
theorem exec_framed_on (t t2 : Term) (hideCursor : Bool) (body : List TermOp) (r c : Nat)
    (h2 : exec { t with cursorVisible := if hideCursor then t.cursorVisible else false } body = t2)
    (f : SameFrame { t with cursorVisible := if hideCursor then t.cursorVisible else false } t2)
    (hr : r < t.h) (hc : c < t.w) :
    exec t ((if !hideCursor then [TermOp.hide] else []) ++ body ++
        ([TermOp.cup r c] ++ if !hideCursor then [TermOp.show] else [])) =
      { t2 with r := r, c := c, pw := false, cursorVisible := if hideCursor then t.cursorVisible else true } := by
  rw [exec_framed t t2 hideCursor body r c h2 f.vis, f.h, f.w,
    Nat.min_eq_left (Nat.le_sub_one_of_lt hr), Nat.min_eq_left (Nat.le_sub_one_of_lt hc)]

/-- the row fits, so only the very last cell can set the wrap flag: no cell is put while it is set -/
theorem foldl_putCell (cs : List TCell) (t : Term) (hpw : t.pw = false) (hfit : t.c + cs.length ≤ t.w) :
    SameFrame t (cs.foldl Term.putCell t) ∧ (cs.foldl Term.putCell t).r = t.r ∧
    (∀ r c, (cs.foldl Term.putCell t).grid r c =
      if r = t.r ∧ t.c ≤ c then cs[c - t.c]?.getD (t.grid r c) else t.grid r c) ∧
    (t.c + cs.length < t.w → (cs.foldl Term.putCell t).c = t.c + cs.length ∧ (cs.foldl Term.putCell t).pw = false) := by
  induction cs generalizing t with
  | nil => exact ⟨SameFrame.refl t, rfl, fun r c => by split <;> rfl, fun _ => ⟨rfl, hpw⟩⟩
  | cons x xs ih =>
    have e : t.putCell x = if t.c + 1 < t.w then { t.set t.r t.c x with c := t.c + 1, g := x.2 }
        else { t.set t.r t.c x with pw := true, g := x.2 } := by
      simp [Term.putCell, hpw, Term.set]
    rw [List.length_cons] at hfit ⊢
    rw [List.foldl_cons, e]
    by_cases hc : t.c + 1 < t.w
    · rw [if_pos hc]
      have e3 : t.c + 1 + xs.length = t.c + (xs.length + 1) := by rw [Nat.add_assoc, Nat.add_comm 1]
      obtain ⟨f, r, gr, cc⟩ := ih { t.set t.r t.c x with c := t.c + 1, g := x.2 } hpw (e3 ▸ hfit)
      refine ⟨⟨f.h, f.w, f.sb, f.vis, f.alt⟩, r, fun r' c' => (gr r' c').trans ?_, fun hlt => ?_⟩
      · show (if r' = t.r ∧ t.c + 1 ≤ c' then
            xs[c' - (t.c + 1)]?.getD (if r' = t.r ∧ c' = t.c then x else t.grid r' c')
          else if r' = t.r ∧ c' = t.c then x else t.grid r' c') = _
        by_cases h1 : r' = t.r ∧ t.c + 1 ≤ c'
        · -- right of the cursor: a cell of `xs`, one place further along in `x :: xs`
          have h2 : ¬ (r' = t.r ∧ c' = t.c) := by omega
          have h1' : r' = t.r ∧ t.c ≤ c' := by omega
          have hidx : c' - t.c = c' - (t.c + 1) + 1 := by omega
          rw [if_pos h1, if_neg h2, if_pos h1', hidx, List.getElem?_cons_succ]
        · rw [if_neg h1]
          by_cases h2 : r' = t.r ∧ c' = t.c
          · -- under the cursor: `x`
            rw [if_pos h2, if_pos ⟨h2.1, Nat.le_of_eq h2.2.symm⟩, h2.2, Nat.sub_self]; rfl
          · -- anywhere else: untouched
            have h1' : ¬ (r' = t.r ∧ t.c ≤ c') := by omega
            rw [if_neg h2, if_neg h1']
      · obtain ⟨c1, p1⟩ := cc (e3 ▸ hlt)
        exact ⟨c1.trans e3, p1⟩
    · -- the last column: `x` is the last cell, and it sets the wrap flag
      obtain rfl : xs = [] := List.eq_nil_of_length_eq_zero (by omega)
      rw [if_neg hc]
      refine ⟨⟨rfl, rfl, rfl, rfl, rfl⟩, rfl, fun r' c' => ?_, fun hlt => absurd hlt hc⟩
      show (if r' = t.r ∧ c' = t.c then x else t.grid r' c') = _
      by_cases h2 : r' = t.r ∧ c' = t.c
      · rw [if_pos h2, if_pos ⟨h2.1, Nat.le_of_eq h2.2.symm⟩, h2.2, Nat.sub_self]; rfl
      · rw [if_neg h2]
        split
        · rw [List.getElem?_eq_none (by rw [List.length_singleton]; omega)]; rfl
        · rfl

def Shows (t : Term) (row : Nat) (cs : List TCell) : Prop := ∀ c, c < t.w → t.grid row c = cs[c]?.getD blank

/-- what writing row `row` does to the rest: nothing, and the terminal is left in its default graphic state
    (`bg` states all of `g`, not only the background; it is what makes the next erase write `blank`) -/
structure RowStep (t t' : Term) (row : Nat) : Prop where
  frame : SameFrame t t'
  others : ∀ r, r ≠ row → ∀ c, t'.grid r c = t.grid r c
  bg : t'.g = {}

theorem erased_blank_old (t : Term) (h : t.g.bg = none) : t.erased = blank := by
  simp [Term.erased, h, blank]

/-- cells that fit overwrite the row from column 0; the rest of it stays -/
theorem exec_cup_put (t : Term) (row : Nat) (cs : List TCell) (hrow : row < t.h) (hlen : cs.length ≤ t.w) :
    let t' := exec t [.cup row 0, .put cs {}]
    RowStep t t' row ∧ (∀ c, t'.grid row c = cs[c]?.getD (t.grid row c)) ∧ t'.r = row ∧
    (cs.length < t.w → t'.c = cs.length) := by
  intro t'
  have e : exec t [.cup row 0, .put cs {}] =
      { cs.foldl Term.putCell { t with r := row, c := 0, pw := false } with g := {} } := by
    simp only [exec_cons, exec_nil, Term.step, Nat.min_eq_left (Nat.le_sub_one_of_lt hrow), Nat.zero_min]
  obtain ⟨f, r, gr, cc⟩ := foldl_putCell cs { t with r := row, c := 0, pw := false } rfl (by simpa using hlen)
  rw [show t' = _ from e]
  refine ⟨⟨⟨f.h, f.w, f.sb, f.vis, f.alt⟩, fun r' hr' c => (gr r' c).trans (if_neg fun h => hr' h.1), rfl⟩,
    fun c => (gr row c).trans ?_, r, fun hlt => by simpa using (cc (by simpa using hlt)).1⟩
  rw [if_pos ⟨rfl, Nat.zero_le c⟩, Nat.sub_zero]

/-- the writes of `writeLine`: a row that has content -/
theorem exec_cup_put_el0 (t : Term) (row : Nat) (cs : List TCell) (hrow : row < t.h) (hlen : cs.length ≤ t.w) :
    RowStep t (exec t ([.cup row 0, .put cs {}] ++ (if cs.length < t.w then [TermOp.el0] else []))) row ∧
    Shows (exec t ([.cup row 0, .put cs {}] ++ (if cs.length < t.w then [TermOp.el0] else []))) row cs := by
  rw [exec_append]
  obtain ⟨rs, gr, hr, hc⟩ := exec_cup_put t row cs hrow hlen
  generalize exec t [.cup row 0, .put cs {}] = t2 at rs gr hr hc
  by_cases hlt : cs.length < t.w
  · rw [if_pos hlt]
    have e : exec t2 [.el0] =
        { t2 with grid := fun r c => if r = t2.r ∧ t2.c ≤ c then t2.erased else t2.grid r c, pw := false } := rfl
    rw [e, erased_blank_old t2 (by rw [rs.bg]), hr, hc hlt]
    refine ⟨⟨⟨rs.frame.h, rs.frame.w, rs.frame.sb, rs.frame.vis, rs.frame.alt⟩, fun r' hr' c => ?_, rs.bg⟩, fun c _ => ?_⟩
    · exact (if_neg fun h => hr' h.1).trans (rs.others r' hr' c)
    · show (if row = row ∧ cs.length ≤ c then blank else t2.grid row c) = _
      by_cases h : cs.length ≤ c
      · rw [if_pos ⟨rfl, h⟩, List.getElem?_eq_none h]; rfl
      · rw [if_neg fun h' => h h'.2, gr, List.getElem?_eq_getElem (Nat.lt_of_not_le h)]; rfl
  · rw [if_neg hlt, exec_nil]
    refine ⟨rs, fun c hcw => ?_⟩
    rw [gr, List.getElem?_eq_getElem (by rw [rs.frame.w] at hcw; omega)]; rfl

/-- the writes of `writeBlank`: a row that has no content -/
theorem exec_cup_el0_el1 (t : Term) (row : Nat) (hrow : row < t.h) (hbg : t.g = {}) :
    RowStep t (exec t [.cup row 0, .el0, .el1]) row ∧ Shows (exec t [.cup row 0, .el0, .el1]) row [] := by
  have e : exec t [.cup row 0, .el0, .el1] =
      { t with r := row, c := 0, pw := false, grid := fun r c => if r = row then blank else t.grid r c } := by
    simp only [exec_cons, exec_nil, Term.step, Term.erased, hbg, Nat.min_eq_left (Nat.le_sub_one_of_lt hrow), Nat.zero_min]
    congr 1
    funext r c
    by_cases h : r = row
    · rw [if_pos h]
      -- column 0 is erased by `el0` and again by `el1`, the others by `el0`
      by_cases h0 : c ≤ 0
      · rw [if_pos ⟨h, h0⟩]; rfl
      · rw [if_neg (fun h' => h0 h'.2), if_pos ⟨h, Nat.zero_le c⟩]; rfl
    · rw [if_neg h, if_neg (fun h' => h h'.1), if_neg (fun h' => h h'.1)]
  rw [e]
  exact ⟨⟨⟨rfl, rfl, rfl, rfl, rfl⟩, fun r' hr' c => if_neg hr', hbg⟩, fun c _ => if_pos rfl⟩

/-- `CursorAwareWindow.__exit__` after its optional line feed -/
theorem exec_cha_ed0_el0 (t : Term) (hide : Bool) (hbg : t.g = {}) :
    exec t ([.cha 0, .ed0, .el0] ++ if hide then [TermOp.show] else []) =
      { t with c := 0, pw := false, cursorVisible := if hide then true else t.cursorVisible,
               grid := fun r c => if t.r ≤ r then blank else t.grid r c } := by
  have e : exec t [.cha 0, .ed0, .el0] =
      { t with c := 0, pw := false, grid := fun r c => if t.r ≤ r then blank else t.grid r c } := by
    simp only [exec_cons, exec_nil, Term.step, Term.erased, hbg, Nat.zero_min]
    congr 1
    funext r c
    by_cases h : t.r ≤ r
    · rw [if_pos h]
      -- the cursor's row is erased by `el0` (and by `ed0` before it), the rows below it by `ed0`
      by_cases h1 : r = t.r
      · rw [if_pos ⟨h1, Nat.zero_le c⟩]; rfl
      · rw [if_neg fun h' => h1 h'.1, if_pos (Or.inr (Nat.lt_of_le_of_ne h (Ne.symm h1)))]; rfl
    · rw [if_neg h, if_neg (by omega), if_neg (by omega)]
  rw [exec_append, e]
  cases hide <;> rfl

end Curtsies.Spec.Terminal
