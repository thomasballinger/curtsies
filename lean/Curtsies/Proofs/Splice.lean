/- The `splice` loop computes `take start ++ new ++ drop end` on the per-character view. -/
import Curtsies.Model.FmtStr
import Curtsies.Model.SpliceOp
namespace Curtsies

theorem Chunk.cells_dropText (c : Chunk) (k : Nat) :
    Chunk.cells ⟨dropText c.s k, c.atts⟩ = c.cells.drop k := by
  simp [Chunk.cells, dropText, List.map_drop]

namespace Splice

/-- What `splice` does after the loop: `if not inserted: new_components.extend(new_fs.chunks)`. -/
def spliceFinish (new : List Chunk) (r : List Chunk × Bool) : List Chunk :=
  if r.2 then r.1 else r.1 ++ new

theorem spliceLoop_inserted_true (new : List Chunk) (start e : Nat) (f : FmtStr) (b : Nat) :
    (spliceLoop new start e b true f).2 = true := by
  induction f generalizing b with
  | nil => rfl
  | cons c rest ih =>
    unfold spliceLoop
    simp only [not_true_eq_false, and_false, false_and, if_false]
    -- the three branches left all hand `inserted` on to the rest of the loop
    split <;> (try split) <;> simp [ih]

/-- After the insertion (`inserted = True`, hence `start ≤ bfs_start`) the loop keeps exactly the characters
    from offset `end` on. -/
theorem spliceLoop_cells_inserted (new : List Chunk) (start e : Nat) (f : FmtStr) (b : Nat)
    (hb : start ≤ b) :
    cells (spliceLoop new start e b true f).1 = (cells f).drop (e - b) := by
  induction f generalizing b with
  | nil => simp [spliceLoop]
  | cons c rest ih =>
    have hn : c.cells.length = c.s.length := Chunk.cells_length c
    have ih' := ih (b + c.s.length) (Nat.le_trans hb (Nat.le_add_right ..))
    -- each run contributes its own characters from offset `end - bfs_start` on
    rw [cells_cons, List.drop_append, hn, ← Nat.sub_add_eq]
    unfold spliceLoop
    simp only [not_true_eq_false, and_false, false_and, if_false]
    split
    · -- `end` falls inside the run: its tail is kept
      simp only [cells_append, cells_cons, cells_nil, List.append_nil, Chunk.cells_dropText, ih']
    · split
      · -- the run starts at or after `end` (or is empty): kept whole
        rename_i h4
        have : c.cells.drop (e - b) = c.cells := by
          rcases h4 with h4 | h4
          · rw [Nat.sub_eq_zero_of_le h4, List.drop_zero]
          · rw [List.eq_nil_of_length_eq_zero (show c.cells.length = 0 by omega), List.drop_nil]
        simp only [cells_append, cells_cons, cells_nil, List.append_nil, this, ih']
      · -- the run ends at or before `end`: dropped
        rw [List.drop_eq_nil_of_le (by omega), List.nil_append, ih']

/-- `inserted = False`: every processed run ended at or before `start`, so `bfs_start ≤ start`. -/
theorem spliceLoop_cells_pending (new : List Chunk) (start e : Nat) (hse : start ≤ e) (f : FmtStr)
    (b : Nat) (hb : b ≤ start) :
    cells (spliceFinish new (spliceLoop new start e b false f))
      = (cells f).take (start - b) ++ cells new ++ (cells f).drop (e - b) := by
  induction f generalizing b with
  | nil => simp [spliceLoop, spliceFinish]
  | cons c rest ih =>
    have hn : c.cells.length = c.s.length := Chunk.cells_length c
    have hT := spliceLoop_inserted_true new start e rest (b + c.s.length)
    rw [cells_cons, List.take_append, List.drop_append, hn, ← Nat.sub_add_eq, ← Nat.sub_add_eq]
    unfold spliceLoop
    simp only [Bool.false_eq_true, not_false_eq_true, and_true, true_and]
    by_cases h2 : (e = b ∧ b = 0) ∨ (b ≤ start ∧ start < b + c.s.length)
    · -- the run in front of or into which `new` goes: the rest of the loop runs with `inserted = True`
      have hle : start ≤ b + c.s.length := by omega
      have hI := spliceLoop_cells_inserted new start e rest (b + c.s.length) hle
      rw [Nat.sub_eq_zero_of_le hle, List.take_zero, List.append_nil]
      by_cases h1 : e = b ∧ b = 0
      · rw [if_pos h1]
        simp only [spliceFinish, hT, if_true, cells_append, cells_cons, cells_nil, List.append_nil, hI]
        rw [Nat.sub_eq_zero_of_le (Nat.le_trans hse (Nat.le_of_eq h1.1)), Nat.sub_eq_zero_of_le (Nat.le_of_eq h1.1),
          List.take_zero, List.drop_zero, List.nil_append, List.append_assoc]
      · rw [if_neg h1, if_pos (h2.resolve_left h1)]
        simp only [spliceFinish, hT, if_true, cells_append, cells_cons, cells_nil, List.append_nil, hI,
          Chunk.cells_take]
        split
        · simp only [cells_cons, cells_nil, List.append_nil, Chunk.cells_dropText, List.append_assoc]
        · rw [List.drop_eq_nil_of_le (show c.cells.length ≤ e - b by omega)]
          simp only [cells_nil, List.append_nil, List.nil_append, List.append_assoc]
    · -- the run ends at or before `start`: it is kept whole
      have hge : b + c.s.length ≤ start := Nat.le_of_not_lt fun h => h2 (Or.inr ⟨hb, h⟩)
      have h1 : ¬ (e = b ∧ b = 0) := fun h => h2 (Or.inl h)
      have h2' : ¬ (b ≤ start ∧ start < b + c.s.length) := fun h => h2 (Or.inr h)
      have h3 : ¬ (b < e ∧ e < b + c.s.length) := by omega
      have h4 : b ≥ e ∨ b + c.s.length ≤ start := Or.inr hge
      rw [if_neg h1, if_neg h2', if_neg h3, if_pos h4]
      have : ∀ r : List Chunk × Bool, spliceFinish new ([c] ++ r.1, r.2) = c :: spliceFinish new r := by
        intro r; simp only [spliceFinish]; split <;> rfl
      rw [this, cells_cons, ih (b + c.s.length) hge,
        List.take_of_length_le (show c.cells.length ≤ start - b by rw [hn]; exact Nat.le_sub_of_add_le' hge),
        List.drop_eq_nil_of_le (show c.cells.length ≤ e - b by
          rw [hn]; exact Nat.le_sub_of_add_le' (Nat.le_trans hge hse))]
      simp only [List.nil_append, List.append_assoc]

theorem splice_eq_body (f new : FmtStr) (start : Nat) (eo : Option Nat) :
    splice f new start eo =
      if len new = 0 ∧ eo.getD start ≤ start then f else spliceBody f new start (eo.getD start) := by
  unfold splice spliceBody
  rfl

theorem spliceBody_cells (f new : FmtStr) (start e : Nat) (h : start ≤ e) :
    cells (spliceBody f new start e) = (cells f).take start ++ cells new ++ (cells f).drop e := by
  unfold spliceBody
  rw [cells_filter_nonempty]
  simpa [spliceFinish] using spliceLoop_cells_pending new start e h f 0 (Nat.zero_le _)

theorem splice_cells (f new : FmtStr) (start : Nat) (eo : Option Nat) (h : start ≤ eo.getD start) :
    cells (splice f new start eo) = (cells f).take start ++ cells new ++ (cells f).drop (eo.getD start) := by
  rw [splice_eq_body]
  split
  · -- early return `self`: nothing to insert, nothing to delete
    rename_i h0
    rw [show eo.getD start = start by omega, List.eq_nil_of_length_eq_zero ((cells_length new).trans h0.1),
      List.append_nil, List.take_append_drop]
  · exact spliceBody_cells f new start _ h

theorem splice_cells_past_end (f new : FmtStr) (start : Nat) (eo : Option Nat) (h : start ≤ eo.getD start)
    (hp : len f ≤ start) : cells (splice f new start eo) = cells f ++ cells new := by
  rw [splice_cells f new start eo h, List.take_of_length_le (by rw [cells_length]; exact hp),
    List.drop_eq_nil_of_le (by rw [cells_length]; omega), List.append_nil]

theorem spliceOp_noEsc (md : Nat) (f : FmtStr) (o : Operand) (start : Nat) (eo : Option Nat) (h : NoEsc o) :
    spliceOp md f o start eo = .ok (splice f (asFmt o) start eo) := by
  unfold spliceOp
  rw [splice_eq_body, asFmt_len, toFmt_noEsc md o h, apply_ite Except.ok]

end Splice
end Curtsies
