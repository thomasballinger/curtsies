/- C03's premises on the tables (`KeyTables.WF`) and the vocabulary of its statements; then one `find_key()` call on
   recognised input, by what stands at its front (`Recognised.head`). -/
import Curtsies.Proofs.KeysCore
import Curtsies.Proofs.Utf8
namespace Curtsies
open Spec.Utf8

/-- `KeyTables.Core` strengthened (`multibyte_ascii`, `bytes`) and extended (`max_attained`, `fits_utf8`, `esc_is_key`);
    re-proved over the regenerated tables on every build (`genTables_wf`, Properties/C03.lean). 27 = ESC. -/
structure KeyTables.WF (T : KeyTables) : Prop where
  prefix_closed : ∀ e ∈ T.all, e.1.head? = some 27 → ∀ i < e.1.length, 1 ≤ i → e.1.take i ∈ T.prefixes
  prefix_sound : ∀ p ∈ T.prefixes, ∃ e ∈ T.all, e.1.head? = some 27 ∧ ∃ i < e.1.length, 1 ≤ i ∧ e.1.take i = p
  multibyte_ascii : ∀ e ∈ T.all, 2 ≤ e.1.length → e.1.head? = some 27 ∧ ∀ b ∈ e.1, b < 128
  bytes : ∀ e ∈ T.all, e.1 ≠ [] ∧ ∀ b ∈ e.1, b < 256
  max_size : ∀ e ∈ T.all, e.1.length ≤ T.maxSize
  /-- `maxSize` is tight, MAX_KEYPRESS_SIZE being a `max` (events.py:77): a check on the tables only, no theorem uses it -/
  max_attained : ∃ e ∈ T.all, e.1.length = T.maxSize
  fits_utf8 : 4 ≤ T.maxSize
  subset : ∀ e ∈ T.curses, (T.curtsies.lookup e.1).isSome
  curtsies_lookup : ∀ e ∈ T.curtsies, T.curtsies.lookup e.1 = some e.2
  esc_is_key : ∀ p ∈ T.prefixes, p.length = 1 → T.isKey p = true

theorem KeyTables.WF.core {T : KeyTables} (h : T.WF) : T.Core :=
  { prefix_closed := h.prefix_closed, prefix_sound := h.prefix_sound,
    multibyte_esc := fun e he h2 => (h.multibyte_ascii e he h2).1,
    nonempty := fun e he => (h.bytes e he).1, max_size := h.max_size, subset := h.subset,
    curtsies_lookup := h.curtsies_lookup }

/-- utf-8: strictly valid characters (multi-byte table sequences are ASCII, hence such) and one-byte 8-bit table keys
    that are no UTF-8 lead bytes (RFC 3629: C2..F4), optionally ended by ONE one-byte table key of any value: the
    lead-byte-valued Meta keys count as recognised only when they end a read (the property's parenthesis). -/
inductive RecUtf8 (T : KeyTables) : List Nat → Prop
  | nil : RecUtf8 T []
  | last (b : Nat) : T.isKey [b] = true → RecUtf8 T [b]
  | char (p r : List Nat) : Shape p → RecUtf8 T r → RecUtf8 T (p ++ r)
  | key8 (b : Nat) (r : List Nat) : T.isKey [b] = true → 128 ≤ b → ¬ (0xC2 ≤ b ∧ b ≤ 0xF4) → RecUtf8 T r →
      RecUtf8 T (b :: r)

/-- ascii: ASCII characters and single-byte table keys (multi-byte table sequences are ASCII);
    latin-1: any bytes (every byte is a character) -/
def Recognised (T : KeyTables) : Enc → List Nat → Prop
  | .utf8, buf => RecUtf8 T buf
  | .ascii, buf => ∀ b ∈ buf, b < 128 ∨ T.isKey [b] = true
  | .latin1, buf => ∀ b ∈ buf, b < 256

/-- D12 (a recorded finding; `C03_D12_witness`): when the bytes `find_key()` has collected are a KEYMAP_PREFIXES member
    (ESC, `ESC [`, ...) and the next byte is >= 0x80, `get_key` raises UnicodeDecodeError under utf-8 and ascii, on
    recognised input too (`1b ff`: ESC, then <Meta-BACKSPACE>).
    `headNoD12`: the complement of that footprint for ONE `find_key()` call, exactly: the bytes collected so far are an
    initial segment of `buf`, and (the set being prefix-closed) every initial segment that is a member is reached -/
def headNoD12 (T : KeyTables) (buf : List Nat) : Prop :=
  ∀ p b c, buf = p ++ b :: c → p ∈ T.prefixes → b < 128

/-- ... over a whole run (`segment` with fuel `n`): at the start of every `find_key()` call -/
def runNoD12 (T : KeyTables) (enc : Enc) (mode : KeyMode) : Nat → List Nat → Prop
  | 0, _ => True
  | n + 1, buf => headNoD12 T buf ∧
      ∀ k c r, findKey T enc mode buf = .ok (some (k, c, r)) → runNoD12 T enc mode n r

/-- static form, an over-approximation: it also rules out members the decoder never has as its state (the inner ESC of
    `1b 5b 31 1b c3 a9`) -/
def noD12 (T : KeyTables) (buf : List Nat) : Prop :=
  ∀ a p b c, buf = a ++ p ++ b :: c → p ∈ T.prefixes → b < 128

/-- D43 (a recorded finding; `C03_D43_witness`): the 11 bytes `could_be_unfinished_utf8` takes for lead bytes although
    no UTF-8 character starts with them (C0, C1: overlong; F5..FD: beyond U+10FFFF / 5- and 6-byte forms). Each is a
    one-byte key in curtsies' tables (C0: <Meta-@>); under utf-8, with another byte buffered behind it, `get_key` waits
    for continuation bytes and then raises UnicodeDecodeError (`c0 41`), or `find_key` runs dry: ValueError (`f8 61`). -/
def isD43Byte (b : Nat) : Prop := b = 0xC0 ∨ b = 0xC1 ∨ (0xF5 ≤ b ∧ b ≤ 0xFD)

instance (b : Nat) : Decidable (isD43Byte b) := by
  unfold isD43Byte
  exact inferInstance

/-- complement of D43's footprint for one `find_key()` call (utf-8) -/
def headNoD43 (buf : List Nat) : Prop := ∀ b r, buf = b :: r → r ≠ [] → ¬ isD43Byte b

def runNoD43 (T : KeyTables) (enc : Enc) (mode : KeyMode) : Nat → List Nat → Prop
  | 0, _ => True
  | n + 1, buf => headNoD43 buf ∧
      ∀ k c r, findKey T enc mode buf = .ok (some (k, c, r)) → runNoD43 T enc mode n r

/-- static form; exact on `Recognised` input, where bytes >= C0 only begin a character or are a one-byte key -/
def noD43 (buf : List Nat) : Prop := ∀ a b c, buf = a ++ b :: c → c ≠ [] → ¬ isD43Byte b

variable {T : KeyTables}

theorem decodeFuel_ascii (bs : List Nat) (h : ∀ b ∈ bs, b < 128) (n : Nat) (hn : bs.length ≤ n) :
    decodeFuel n bs = some bs := by
  induction bs generalizing n with
  | nil => simp [decodeFuel]
  | cons b t ih =>
    cases n with
    | zero => simp at hn
    | succ n =>
      have hb : b < 128 := h b (by simp)
      simp only [decodeFuel, decodeOne, if_pos hb]
      rw [ih (fun x hx => h x (by simp [hx])) n (by simpa using hn)]
      rfl

/-- bytes that keep an ESC-initiated run decodable -/
def okByte : Enc → Nat → Prop
  | .latin1, b => b < 256
  | _, b => b < 128

theorem okByte_of_ascii {b : Nat} (h : b < 128) (enc : Enc) : okByte enc b := by
  cases enc with
  | latin1 => exact Nat.lt_trans h (by decide)
  | _ => exact h

theorem decode_okSeq (enc : Enc) (s : List Nat) (h : ∀ b ∈ s, okByte enc b) : decode enc s = some s := by
  cases enc with
  | utf8 => exact decodeFuel_ascii s h _ (Nat.le_refl _)
  | ascii =>
    simp only [decode, decodeAscii]
    rw [if_pos]
    simpa [okByte] using h
  | latin1 =>
    simp only [decode, decodeLatin1]
    rw [if_pos]
    simpa [okByte] using h

theorem decode_ascii (enc : Enc) (bs : List Nat) (h : ∀ b ∈ bs, b < 128) : decode enc bs = some bs :=
  decode_okSeq enc bs fun b hb => okByte_of_ascii (h b hb) enc

theorem isKey_entry (hT : T.WF) {u : List Nat} (hu : T.isKey u = true) :
    u ≠ [] ∧ (∀ b ∈ u, b < 256) ∧ u.length ≤ T.maxSize ∧
    (2 ≤ u.length → u.head? = some 27 ∧ ∀ b ∈ u, b < 128) := by
  obtain ⟨e, he, rfl⟩ := KeyTables.isKey_mem hu
  exact ⟨(hT.bytes e he).1, (hT.bytes e he).2, hT.max_size e he, hT.multibyte_ascii e he⟩

theorem isKey_cases (hT : T.WF) {u : List Nat} (hu : T.isKey u = true) :
    (∃ b, u = [b]) ∨ (2 ≤ u.length ∧ ∀ b ∈ u, b < 128) := by
  obtain ⟨hne, _, _, hm⟩ := isKey_entry hT hu
  match u, hne with
  | [b], _ => exact .inl ⟨b, rfl⟩
  | b :: c :: t, _ => exact .inr ⟨Nat.le_add_left _ _, (hm (Nat.le_add_left _ _)).2⟩

theorem keyName_isKey (hT : T.WF) {u : List Nat} (hu : T.isKey u = true) (enc : Enc) (mode : KeyMode) :
    ∃ k, keyName T u enc mode = .ok k ∧ tableName T u enc mode k := by
  cases mode with
  | bytes => exact ⟨_, rfl, rfl⟩
  | curtsies =>
    obtain ⟨n, h⟩ := curtsies_name_of_isKey hT.core hu
    exact ⟨.text n, by simp [keyName, h], n, h, rfl⟩
  | curses =>
    cases h : T.curses.lookup u with
    | some n => exact ⟨.text n, by simp [keyName, h], by simp [tableName, h]⟩
    | none =>
      cases hd : decode enc u with
      | some cs => exact ⟨.text cs, by simp [keyName, h, hd], by simp [tableName, h, hd]⟩
      | none =>
        rcases isKey_cases hT hu with ⟨b, rfl⟩ | ⟨_, ha⟩
        · exact ⟨.text (xName b), by simp [keyName, h, hd], by simp [tableName, h, hd]⟩
        · rw [decode_ascii enc u ha] at hd
          cases hd

/-- the five bit tests of `could_be_unfinished_utf8` as byte ranges -/
theorem couldBeUnfinishedUtf8_iff (o : Nat) (r : List Nat) : couldBeUnfinishedUtf8 (o :: r) = true ↔
    (0xC0 ≤ o ∧ o ≤ 0xDF) ∧ r.length + 1 < 2 ∨ (0xE0 ≤ o ∧ o ≤ 0xEF) ∧ r.length + 1 < 3 ∨
    (0xF0 ≤ o ∧ o ≤ 0xF7) ∧ r.length + 1 < 4 ∨ (0xF8 ≤ o ∧ o ≤ 0xFB) ∧ r.length + 1 < 5 ∨
    (0xFC ≤ o ∧ o ≤ 0xFD) ∧ r.length + 1 < 6 := by
  simp [couldBeUnfinishedUtf8, Nat.div_eq_iff, or_assoc]

theorem unfinished_lead {o : Nat} {r : List Nat} (h : couldBeUnfinishedUtf8 (o :: r) = true) :
    (0xC2 ≤ o ∧ o ≤ 0xF4) ∨ isD43Byte o := by
  rw [couldBeUnfinishedUtf8_iff] at h
  unfold isD43Byte
  omega

/-- the first byte fixes the length -/
theorem unfinished_iff_shorter {b0 : Nat} {t t' : List Nat} (hp : Shape (b0 :: t')) :
    couldBeUnfinishedUtf8 (b0 :: t) = true ↔ t.length < t'.length := by
  rw [couldBeUnfinishedUtf8_iff]
  cases hp
  all_goals simp only [List.length_cons, List.length_nil]
  all_goals omega

theorem unfinished_isKey (hT : T.WF) {u : List Nat} (hu : T.isKey u = true) (enc : Enc)
    (hc : enc = .utf8 → ∀ b, u = [b] → ¬ (0xC2 ≤ b ∧ b ≤ 0xF4) ∧ ¬ isD43Byte b) :
    couldBeUnfinishedChar u enc = false := by
  cases enc with
  | ascii => simp [couldBeUnfinishedChar]
  | latin1 => exact couldBeUnfinishedChar_of_decode (decode_okSeq .latin1 u (isKey_entry hT hu).2.1)
  | utf8 =>
    rcases isKey_cases hT hu with ⟨b, rfl⟩ | ⟨_, ha⟩
    · simp only [couldBeUnfinishedChar]
      split
      · rfl
      · have := hc rfl b rfl
        exact Bool.eq_false_iff.mpr fun h => (unfinished_lead h).elim this.1 this.2
    · exact couldBeUnfinishedChar_of_decode (decode_ascii .utf8 u ha)

theorem findKey_isKey (hT : T.WF) {u : List Nat} (hu : T.isKey u = true) (enc : Enc) (mode : KeyMode)
    (rest : List Nat) (h : rest = [] ∨ (u ∉ T.prefixes ∧ couldBeUnfinishedChar u enc = false)) :
    ∃ k, findKey T enc mode (u ++ rest) = .ok (some (k, u, rest)) ∧ tableName T u enc mode k := by
  obtain ⟨hne, _, hl, _⟩ := isKey_entry hT hu
  obtain ⟨k, hk, hn⟩ := keyName_isKey hT hu enc mode
  refine ⟨k, findKey_unit enc mode u rest hne (getKey_isKey_prefix hT.core hu enc mode) ?_, hn⟩
  rw [getKey_known hl enc mode _ (keyKnown_of_isKey hu enc) (h.imp List.isEmpty_iff.mpr id), hk]
  rfl

theorem shape_prefix_unfinished {p : List Nat} (hp : Shape p) (i : Nat) (h1 : 1 ≤ i) (h2 : i < p.length) :
    couldBeUnfinishedChar (p.take i) .utf8 = true := by
  have hd : decodable (p.take i) .utf8 = false := by simp [decodable, decode, hp.prefix_undecodable i h1 h2]
  obtain ⟨b0, t, rfl⟩ := List.exists_cons_of_ne_nil (List.ne_nil_of_length_pos (Nat.zero_lt_of_lt h2))
  obtain ⟨j, rfl⟩ := Nat.exists_eq_add_of_le' h1
  rw [List.take_succ_cons] at hd ⊢
  simp only [couldBeUnfinishedChar, hd, Bool.false_eq_true, if_false]
  rw [unfinished_iff_shorter hp, List.length_take]
  simp only [List.length_cons] at h2
  omega

theorem isKey_shape_length (hT : T.WF) {p : List Nat} (hp : Shape p) (hk : T.isKey p = true) : p.length = 1 := by
  by_cases h2 : 2 ≤ p.length
  · obtain ⟨b0, t, rfl, hb0⟩ := hp.head_ge h2
    have := ((isKey_entry hT hk).2.2.2 h2).1
    simp at this
    omega
  · have := hp.length_le
    omega

theorem findKey_char_utf8 (hT : T.WF) (mode : KeyMode) {p : List Nat} (rest : List Nat)
    (hp : Shape p) (hnk : T.isKey p = false) :
    (∀ i, 1 ≤ i → i < p.length → getKey T (p.take i) .utf8 mode false = .ok none) ∧
    findKey T .utf8 mode (p ++ rest) = .ok (some (plainKey mode [Shape.val p] p, p, rest)) := by
  have hl := hp.length_le
  have h4 := hT.fits_utf8
  have hwait : ∀ i, 1 ≤ i → i < p.length → getKey T (p.take i) .utf8 mode false = .ok none := by
    intro i h1 h2
    refine getKey_wait ?_ .utf8 mode (.inr (shape_prefix_unfinished hp i h1 h2))
    simp [List.length_take]
    omega
  have hnp : p ∉ T.prefixes := by
    intro hmem
    have h27 := (hT.core.prefix_len hmem).2
    by_cases h2 : 2 ≤ p.length
    · obtain ⟨b0, t, rfl, hb0⟩ := hp.head_ge h2
      simp at h27
      omega
    · have := hT.esc_is_key p hmem (by omega)
      rw [this] at hnk
      cases hnk
  exact ⟨hwait, findKey_decodable_unit .utf8 mode rest (by omega) (List.ne_nil_of_length_pos hl.1)
    (decodeUtf8_of_decodeOne (by simpa using hp.decode_eq [])) hnk hnp hwait⟩

/-- recognised input read from the front: the three kinds of unit `find_key()` tells apart -/
theorem Recognised.head {enc : Enc} {b0 : Nat} {r : List Nat} (h : Recognised T enc (b0 :: r)) :
    (okByte enc b0 ∧ Recognised T enc r) ∨
    (T.isKey [b0] = true ∧ 128 ≤ b0 ∧ Recognised T enc r ∧ (enc = .utf8 → r ≠ [] → ¬ (0xC2 ≤ b0 ∧ b0 ≤ 0xF4))) ∨
    (enc = .utf8 ∧ ∃ p r', b0 :: r = p ++ r' ∧ Shape p ∧ 2 ≤ p.length ∧ RecUtf8 T r') := by
  cases enc with
  | latin1 => exact .inl (List.forall_mem_cons.mp h)
  | ascii =>
    obtain ⟨h0, hr⟩ := List.forall_mem_cons.mp h
    by_cases hb : b0 < 128
    · exact .inl ⟨hb, hr⟩
    · exact .inr (.inl ⟨h0.resolve_left hb, by omega, hr, nofun⟩)
  | utf8 =>
    generalize he : b0 :: r = l at h
    cases h with
    | nil => cases he
    | last b hk =>
      cases he
      by_cases hb : b0 < 128
      · exact .inl ⟨hb, .nil⟩
      · exact .inr (.inl ⟨hk, by omega, .nil, fun _ hr => absurd rfl hr⟩)
    | key8 b r' hk h128 hlead hr =>
      cases he
      exact .inr (.inl ⟨hk, h128, hr, fun _ _ => hlead⟩)
    | char p r' hp hr =>
      by_cases h2 : 2 ≤ p.length
      · exact .inr (.inr ⟨rfl, p, r', rfl, hp, h2, hr⟩)
      · cases hp with
        | one b hb =>
          cases he
          exact .inl ⟨hb, hr⟩
        | _ => simp at h2

/-- an ok byte is a character of its own -/
theorem Recognised.tail {enc : Enc} {b : Nat} {r : List Nat} (hb : okByte enc b) (h : Recognised T enc (b :: r)) :
    Recognised T enc r := by
  rcases h.head with ⟨_, hr⟩ | ⟨_, _, hr, _⟩ | ⟨rfl, p, r', he, hp, h2, _⟩
  · exact hr
  · exact hr
  · obtain ⟨b0, t, rfl, hb0⟩ := hp.head_ge h2
    cases he
    simp only [okByte] at hb
    omega

theorem recUtf8_ascii_append {a : List Nat} (ha : ∀ b ∈ a, b < 128) {r : List Nat} (h : RecUtf8 T r) :
    RecUtf8 T (a ++ r) := by
  induction a with
  | nil => exact h
  | cons x xs ih =>
    exact .char [x] _ (.one x (ha x List.mem_cons_self)) (ih fun b hb => ha b (List.mem_cons_of_mem _ hb))

/-- The merging loop outside D12's footprint: `cur` (nothing yet, or a KEYMAP_PREFIXES member) and the byte after
    every KEYMAP_PREFIXES member reached are ok bytes, so the loop consumes ok bytes only until it returns a key. -/
theorem findKeyLoop_merge (hT : T.WF) (enc : Enc) (mode : KeyMode) (un : List Nat) :
    ∀ cur, cur.length < T.maxSize → (∀ b ∈ cur, okByte enc b) → un ≠ [] → Recognised T enc un →
    (∀ p b c, cur ++ un = p ++ b :: c → p = cur ∨ p ∈ T.prefixes → okByte enc b) →
    ∃ k c r, findKeyLoop T enc mode cur un = .ok (some (k, c, r)) ∧ Recognised T enc r := by
  induction un with
  | nil =>
    intro cur _ _ h
    exact absurd rfl h
  | cons b rest ih =>
    intro cur hlen hok _ hrec hno
    have hb : okByte enc b := hno cur b rest rfl (.inl rfl)
    have hrest : Recognised T enc rest := hrec.tail hb
    have hok' : ∀ x ∈ cur ++ [b], okByte enc x := List.forall_mem_append.mpr ⟨hok, by simpa using hb⟩
    have hd := decode_okSeq enc _ hok'
    have hl : (cur ++ [b]).length ≤ T.maxSize := by
      simp
      omega
    by_cases hcont : rest ≠ [] ∧ cur ++ [b] ∈ T.prefixes
    · have hw : getKey T (cur ++ [b]) enc mode rest.isEmpty = .ok none := by
        rw [List.isEmpty_eq_false_iff.mpr hcont.1]
        exact getKey_prefix_core hT.core hcont.2 enc mode
      rw [findKeyLoop_wait hw]
      refine ih (cur ++ [b]) (hT.core.prefix_len hcont.2).1 hok' hcont.1 hrest fun p b' c' he hp => ?_
      exact hno p b' c' (by simpa using he) (.inr (hp.elim (· ▸ hcont.2) id))
    · have hcase : rest.isEmpty = true ∨ cur ++ [b] ∉ T.prefixes := by
        by_cases hr : rest = []
        · exact .inl (List.isEmpty_iff.mpr hr)
        · exact .inr fun hmem => hcont ⟨hr, hmem⟩
      obtain ⟨k, hk⟩ := keyName_ok_of_known_core hT.core _ enc mode (keyKnown_of_decode hd)
      refine ⟨k, cur ++ [b], rest, findKeyLoop_key ?_, hrest⟩
      rw [getKey_decodable hl hd mode hcase, hk]
      rfl

/-- an ok byte goes through the merging loop; a one-byte key and a multi-byte character are reported as they are -/
theorem findKey_recognised (hT : T.WF) (enc : Enc) (mode : KeyMode) (buf : List Nat) (hne : buf ≠ [])
    (hrec : Recognised T enc buf) (hno : enc = .latin1 ∨ headNoD12 T buf)
    (hd43 : enc = .utf8 → headNoD43 buf) :
    ∃ k c r, findKey T enc mode buf = .ok (some (k, c, r)) ∧ Recognised T enc r := by
  obtain ⟨b0, r, rfl⟩ := List.exists_cons_of_ne_nil hne
  rcases hrec.head with ⟨hb, _⟩ | ⟨hk, h128, hr, hlead⟩ | ⟨rfl, p, r', he, hp, h2, hr'⟩
  · refine findKeyLoop_merge hT enc mode (b0 :: r) [] (Nat.lt_of_lt_of_le (by decide) hT.fits_utf8) (by simp) (by simp) hrec
      fun p b c he hp => ?_
    rw [List.nil_append] at he
    rcases hp with rfl | hp
    · cases he
      exact hb
    rcases hno with rfl | hno
    · refine hrec b ?_
      rw [he]
      simp
    · exact okByte_of_ascii (hno p b c he hp) enc
  · -- reported at once: it ends the input, or is neither a KEYMAP_PREFIXES member (8-bit) nor taken for a lead byte
    have hcut : r = [] ∨ ([b0] ∉ T.prefixes ∧ couldBeUnfinishedChar [b0] enc = false) := by
      by_cases hr0 : r = []
      · exact .inl hr0
      · refine .inr ⟨fun hmem => ?_, unfinished_isKey hT hk enc fun he b hb => ?_⟩
        · have := (hT.core.prefix_len hmem).2
          simp at this
          omega
        · cases hb
          exact ⟨hlead he hr0, hd43 he b0 r rfl hr0⟩
    obtain ⟨k, h, _⟩ := findKey_isKey hT hk enc mode r hcut
    exact ⟨k, [b0], r, h, hr⟩
  · have hnk : T.isKey p = false := by
      cases hk : T.isKey p with
      | false => rfl
      | true =>
        have := isKey_shape_length hT hp hk
        omega
    exact he ▸ ⟨_, p, r', (findKey_char_utf8 hT mode r' hp hnk).2, hr'⟩

/-- what a `find_key()` call leaves is a suffix of its buffer, and the static forms pass to suffixes -/
theorem noD12.suffix {c r : List Nat} (h : noD12 T (c ++ r)) : noD12 T r :=
  fun a p b c' he hp => h (c ++ a) p b c' (by simp [he]) hp

theorem noD43.suffix {c r : List Nat} (h : noD43 (c ++ r)) : noD43 r :=
  fun a b c' he hc => h (c ++ a) b c' (by simp [he]) hc

theorem runNoD12_of_noD12 (enc : Enc) (mode : KeyMode) (n : Nat) : ∀ buf, noD12 T buf → runNoD12 T enc mode n buf := by
  induction n with
  | zero =>
    intro _ _
    trivial
  | succ n ih =>
    intro buf h
    refine ⟨fun p b c he hp => h [] p b c he hp, fun k c r hf => ih r ?_⟩
    obtain rfl : c ++ r = buf := (findKeyLoop_ok hf).1
    exact h.suffix

theorem runNoD43_of_noD43 (enc : Enc) (mode : KeyMode) (n : Nat) : ∀ buf, noD43 buf → runNoD43 T enc mode n buf := by
  induction n with
  | zero =>
    intro _ _
    trivial
  | succ n ih =>
    intro buf h
    refine ⟨fun b r he hr => h [] b r he hr, fun k c r hf => ih r ?_⟩
    obtain rfl : c ++ r = buf := (findKeyLoop_ok hf).1
    exact h.suffix

end Curtsies
