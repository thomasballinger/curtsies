/- Strict UTF-8 through the byte shapes of one character (`Shape`): a shape decodes, whatever `decodeOne` reads has a shape,
   and `encode c` is a shape of value `c`. -/
import Curtsies.Spec.Utf8
namespace Curtsies.Spec.Utf8

theorem isCont_payload (x : Nat) : isCont (0x80 + x % 64) = true := by
  simp only [isCont, Bool.and_eq_true, decide_eq_true_eq]
  omega

/-- the form in which `decodeOne` tests a second byte's range, which matters under one lead byte only -/
theorem bne_or_iff_imp {a b : Nat} {q : Prop} [Decidable q] : (a != b || decide q) = true ↔ (a = b → q) := by
  by_cases e : a = b <;> simp [e]

theorem decodeUtf8_of_decodeOne {p : List Nat} {c : Nat} (hd : decodeOne p = some (c, [])) :
    decodeUtf8 p = some [c] := by
  cases p with
  | nil => simp [decodeOne] at hd
  | cons b t => simp [decodeUtf8, decodeFuel, hd]

/-- The byte shapes of one strictly valid character (the table in Spec/Utf8.lean). -/
inductive Shape : List Nat → Prop
  | one (b0 : Nat) : b0 < 0x80 → Shape [b0]
  | two (b0 b1 : Nat) : 0xC2 ≤ b0 → b0 < 0xE0 → isCont b1 = true → Shape [b0, b1]
  | three (b0 b1 b2 : Nat) : 0xE0 ≤ b0 → b0 < 0xF0 → isCont b1 = true → isCont b2 = true →
      (b0 = 0xE0 → 0xA0 ≤ b1) → (b0 = 0xED → b1 < 0xA0) → Shape [b0, b1, b2]
  | four (b0 b1 b2 b3 : Nat) : 0xF0 ≤ b0 → b0 < 0xF5 → isCont b1 = true → isCont b2 = true →
      isCont b3 = true → (b0 = 0xF0 → 0x90 ≤ b1) → (b0 = 0xF4 → b1 < 0x90) → Shape [b0, b1, b2, b3]

/-- the code point `decodeOne` computes from the bytes of one character -/
def Shape.val : List Nat → Nat
  | [b0] => b0
  | [b0, b1] => (b0 - 0xC0) * 64 + (b1 - 0x80)
  | [b0, b1, b2] => (b0 - 0xE0) * 4096 + (b1 - 0x80) * 64 + (b2 - 0x80)
  | [b0, b1, b2, b3] => (b0 - 0xF0) * 262144 + (b1 - 0x80) * 4096 + (b2 - 0x80) * 64 + (b3 - 0x80)
  | _ => 0

-- the equations of `Shape.val`, stated because Lean fails to generate them (`b0 - 0xC0` is unfolded numeral by numeral)
theorem Shape.val_one (b0 : Nat) : Shape.val [b0] = b0 := rfl
theorem Shape.val_two (b0 b1 : Nat) : Shape.val [b0, b1] = (b0 - 0xC0) * 64 + (b1 - 0x80) := rfl
theorem Shape.val_three (b0 b1 b2 : Nat) :
    Shape.val [b0, b1, b2] = (b0 - 0xE0) * 4096 + (b1 - 0x80) * 64 + (b2 - 0x80) := rfl
theorem Shape.val_four (b0 b1 b2 b3 : Nat) :
    Shape.val [b0, b1, b2, b3] = (b0 - 0xF0) * 262144 + (b1 - 0x80) * 4096 + (b2 - 0x80) * 64 + (b3 - 0x80) := rfl

theorem Shape.decode {p : List Nat} (hp : Shape p) :
    (∀ r, decodeOne (p ++ r) = some (Shape.val p, r)) ∧
    ∀ i, 1 ≤ i → i < p.length → decodeUtf8 (p.take i) = none := by
  cases hp with
  | one b0 h => exact ⟨fun r => if_pos h, fun i h1 (h2 : i < 1) => by omega⟩
  | two b0 b1 h0 h0' i1 =>
    have a1 : ¬ b0 < 0x80 := by omega
    have a2 : ¬ b0 < 0xC2 := by omega
    refine ⟨fun r => ?_, fun i h1 (h2 : i < 2) => ?_⟩
    · simp only [List.cons_append, List.nil_append, decodeOne, if_neg a1, if_neg a2, if_pos h0', i1, if_true,
        Shape.val_two]
    · obtain rfl : i = 1 := by omega
      simp [decodeUtf8, decodeFuel, decodeOne, a1, a2, h0']
  | three b0 b1 b2 h0 h0' i1 i2 e1 e2 =>
    have a1 : ¬ b0 < 0x80 := by omega
    have a2 : ¬ b0 < 0xC2 := by omega
    have a3 : ¬ b0 < 0xE0 := by omega
    refine ⟨fun r => ?_, fun i h1 (h2 : i < 3) => ?_⟩
    · simp only [List.cons_append, List.nil_append, decodeOne, if_neg a1, if_neg a2, if_neg a3, if_pos h0', i1, i2,
        bne_or_iff_imp.mpr e1, bne_or_iff_imp.mpr e2, Bool.and_self, if_true, Shape.val_three]
    · obtain rfl | rfl : i = 1 ∨ i = 2 := by omega
      all_goals simp [decodeUtf8, decodeFuel, decodeOne, a1, a2, a3, h0']
  | four b0 b1 b2 b3 h0 h0' i1 i2 i3 e1 e2 =>
    have a1 : ¬ b0 < 0x80 := by omega
    have a2 : ¬ b0 < 0xC2 := by omega
    have a3 : ¬ b0 < 0xE0 := by omega
    have a4 : ¬ b0 < 0xF0 := by omega
    refine ⟨fun r => ?_, fun i h1 (h2 : i < 4) => ?_⟩
    · simp only [List.cons_append, List.nil_append, decodeOne, if_neg a1, if_neg a2, if_neg a3, if_neg a4, if_pos h0',
        i1, i2, i3, bne_or_iff_imp.mpr e1, bne_or_iff_imp.mpr e2, Bool.and_self, if_true, Shape.val_four]
    · obtain rfl | rfl | rfl : i = 1 ∨ i = 2 ∨ i = 3 := by omega
      all_goals simp [decodeUtf8, decodeFuel, decodeOne, a1, a2, a3, a4, h0']

theorem Shape.decode_eq {p : List Nat} (hp : Shape p) (r : List Nat) : decodeOne (p ++ r) = some (Shape.val p, r) :=
  hp.decode.1 r

/-- no proper non-empty prefix of a valid character decodes -/
theorem Shape.prefix_undecodable {p : List Nat} (hp : Shape p) (i : Nat) (h1 : 1 ≤ i) (h2 : i < p.length) :
    decodeUtf8 (p.take i) = none :=
  hp.decode.2 i h1 h2

theorem Shape.valid {p : List Nat} (hp : Shape p) : validChar p :=
  ⟨Shape.val p, by simpa using hp.decode_eq []⟩

/-- `Shape` leaves out no valid character: whatever `decodeOne` reads has one of the shapes. So `Recognised`, which admits
    characters through `Shape` (`RecUtf8.char`), admits every strictly valid one. -/
theorem decodeOne_shape {bs : List Nat} {c : Nat} {r : List Nat} (h : decodeOne bs = some (c, r)) :
    ∃ p, Shape p ∧ bs = p ++ r ∧ decodeOne p = some (c, []) := by
  -- the bytes read are what matters: the value is then the one `Shape.decode_eq` gives
  suffices hs : ∃ p, Shape p ∧ bs = p ++ r by
    obtain ⟨p, hp, rfl⟩ := hs
    rw [hp.decode_eq r] at h
    cases h
    exact ⟨p, hp, rfl, by simpa using hp.decode_eq []⟩
  -- (`cases h` would compare the values too, numeral by numeral)
  have rest {v : Nat} {t : List Nat} (h : some (v, t) = some (c, r)) : t = r := (Prod.mk.inj (Option.some.inj h)).2
  cases bs with
  | nil => cases h
  | cons b0 t =>
    -- by the lead byte's range, as `decodeOne` does (`split at h` on these four tests is several times dearer to check)
    simp only [decodeOne] at h
    by_cases a1 : b0 < 0x80
    · rw [if_pos a1] at h
      cases rest h
      exact ⟨[b0], .one b0 a1, rfl⟩
    rw [if_neg a1] at h
    by_cases a2 : b0 < 0xC2
    · rw [if_pos a2] at h
      cases h
    rw [if_neg a2] at h
    by_cases a3 : b0 < 0xE0
    · rw [if_pos a3] at h
      split at h
      next _ b1 t =>
        split at h
        next i1 =>
          cases rest h
          exact ⟨[b0, b1], .two b0 b1 (Nat.le_of_not_lt a2) a3 i1, rfl⟩
        · cases h
      · cases h
    rw [if_neg a3] at h
    by_cases a4 : b0 < 0xF0
    · rw [if_pos a4] at h
      split at h
      next _ b1 b2 t =>
        split at h
        next hc =>
          simp only [Bool.and_eq_true, bne_or_iff_imp] at hc
          obtain ⟨⟨⟨i1, i2⟩, e1⟩, e2⟩ := hc
          cases rest h
          exact ⟨[b0, b1, b2], .three b0 b1 b2 (Nat.le_of_not_lt a3) a4 i1 i2 e1 e2, rfl⟩
        · cases h
      · cases h
    rw [if_neg a4] at h
    by_cases a5 : b0 < 0xF5
    · rw [if_pos a5] at h
      split at h
      next _ b1 b2 b3 t =>
        split at h
        next hc =>
          simp only [Bool.and_eq_true, bne_or_iff_imp] at hc
          obtain ⟨⟨⟨⟨i1, i2⟩, i3⟩, e1⟩, e2⟩ := hc
          cases rest h
          exact ⟨[b0, b1, b2, b3], .four b0 b1 b2 b3 (Nat.le_of_not_lt a4) a5 i1 i2 i3 e1 e2, rfl⟩
        · cases h
      · cases h
    · rw [if_neg a5] at h
      cases h

theorem Shape.length_le {p : List Nat} (hp : Shape p) : 1 ≤ p.length ∧ p.length ≤ 4 := by
  cases hp <;> simp

theorem Shape.head_ge {p : List Nat} (hp : Shape p) (h : 2 ≤ p.length) : ∃ b0 t, p = b0 :: t ∧ 0xC2 ≤ b0 := by
  cases hp with
  | one b0 _ => simp at h
  | two b0 b1 h0 => exact ⟨_, _, rfl, h0⟩
  | three b0 b1 b2 h0 => exact ⟨_, _, rfl, by omega⟩
  | four b0 b1 b2 b3 h0 => exact ⟨_, _, rfl, by omega⟩

theorem encode_shape (c : Nat) (hs : isScalar c) : Shape (encode c) := by
  unfold isScalar at hs
  unfold encode
  split
  · exact .one c ‹_›
  · split
    · exact .two _ _ (by omega) (by omega) (isCont_payload _)
    · split
      · exact .three _ _ _ (Nat.le_add_right _ _) (by omega) (isCont_payload _) (isCont_payload _) (by omega) (by omega)
      · exact .four _ _ _ _ (Nat.le_add_right _ _) (by omega) (isCont_payload _) (isCont_payload _) (isCont_payload _)
          (by omega) (by omega)

/-- the two leading base-64 digits of `c` above the unit `m` -/
theorem join64 (c m : Nat) : c / (m * 64) * (m * 64) + c / m % 64 * m = c / m * m := by
  rw [← Nat.div_div_eq_div_mul, Nat.mul_comm m 64, ← Nat.mul_assoc, ← Nat.add_mul, Nat.div_add_mod']

theorem val_encode (c : Nat) : Shape.val (encode c) = c := by
  unfold encode
  split
  · exact Shape.val_one c
  · split
    · simp only [Shape.val_two, Nat.add_sub_cancel_left]
      exact Nat.div_add_mod' c 64
    · -- the digits join from the top (`omega` proves it too, slowly)
      have h1 : c / 4096 * 4096 + c / 64 % 64 * 64 = c / 64 * 64 := join64 c 64
      split
      · simp only [Shape.val_three, Nat.add_sub_cancel_left]
        rw [h1, Nat.div_add_mod']
      · have h2 : c / 262144 * 262144 + c / 4096 % 64 * 4096 = c / 4096 * 4096 := join64 c 4096
        simp only [Shape.val_four, Nat.add_sub_cancel_left]
        rw [h2, h1, Nat.div_add_mod']

theorem decodeOne_encode (c : Nat) (hs : isScalar c) (r : List Nat) :
    decodeOne (encode c ++ r) = some (c, r) := by
  rw [(encode_shape c hs).decode_eq r, val_encode]

theorem validChar_encode (c : Nat) (hs : isScalar c) : validChar (encode c) :=
  (encode_shape c hs).valid

end Curtsies.Spec.Utf8
