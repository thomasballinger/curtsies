/- Every module of the library, by layer (DESIGN.md 9.1 and 9.12): executable models, independent specifications,
   tables regenerated from /repo, the handlers of the compiled driver with their wire codec, the lemma layers
   (each area bottom up), the property theorems. -/
import Curtsies.Model.Basic
import Curtsies.Model.FmtStr
import Curtsies.Model.EscParse
import Curtsies.Model.SpliceOp
import Curtsies.Model.Operand
import Curtsies.Model.FSArray
import Curtsies.Model.Width
import Curtsies.Model.ParseArgs
import Curtsies.Model.StrMethods
import Curtsies.Model.Repr
import Curtsies.Model.Keys
import Curtsies.Model.KeysGen
import Curtsies.Model.Window
import Curtsies.Model.Input
import Curtsies.Model.Contexts
import Curtsies.Model.Heap
import Curtsies.Spec.Sgr
import Curtsies.Spec.Term
import Curtsies.Spec.PySlice
import Curtsies.Spec.EscScan
import Curtsies.Spec.Utf8
import Curtsies.Spec.StrMethods
import Curtsies.Spec.ParseArgs
import Curtsies.Generated.Sgr
import Curtsies.Generated.Keys
import Curtsies.Generated.InputKeys
import Curtsies.Generated.Blessed
import Curtsies.Generated.EscParse
import Curtsies.Generated.Heap
import Curtsies.Generated.Fmtfuncs
import Curtsies.Driver.Sgr
import Curtsies.Driver.FmtStr
import Curtsies.Driver.Operand
import Curtsies.Driver.EscParse
import Curtsies.Driver.FSArray
import Curtsies.Driver.Width
import Curtsies.Driver.Atts
import Curtsies.Driver.Keys
import Curtsies.Driver.Window
import Curtsies.Driver.Input
import Curtsies.Driver.Contexts
import Curtsies.Driver.Heap
import Curtsies.Wire
import Curtsies.Proofs.Slice
import Curtsies.Proofs.Splice
import Curtsies.Proofs.Atts
import Curtsies.Proofs.Width
import Curtsies.Proofs.FSArray
import Curtsies.Proofs.ParseArgs
import Curtsies.Proofs.Sgr
import Curtsies.Proofs.EscParse
import Curtsies.Proofs.EscGrammar
import Curtsies.Proofs.Term
import Curtsies.Proofs.Window
import Curtsies.Proofs.Utf8
import Curtsies.Proofs.Keys
import Curtsies.Proofs.KeysCore
import Curtsies.Proofs.KeysGenCore
import Curtsies.Proofs.KeysLoop
import Curtsies.Proofs.HeapInterp
import Curtsies.Proofs.Heap
import Curtsies.Properties.C01
import Curtsies.Properties.C02
import Curtsies.Properties.C03
import Curtsies.Properties.C04
import Curtsies.Properties.C04Text
import Curtsies.Properties.C05
import Curtsies.Properties.C06
import Curtsies.Properties.C07
import Curtsies.Properties.C08
import Curtsies.Properties.C08Real
import Curtsies.Properties.C09
import Curtsies.Properties.C09Setitem
import Curtsies.Properties.C10
import Curtsies.Properties.C11
import Curtsies.Properties.C12
import Curtsies.Properties.C13
import Curtsies.Properties.C13Table
import Curtsies.Properties.C14
import Curtsies.Properties.C14Sound
import Curtsies.Properties.C15
import Curtsies.Properties.C16
import Curtsies.Properties.C17
import Curtsies.Properties.C18
import Curtsies.Properties.C19
import Curtsies.Properties.C20
